import RedisEmu.Proofs.Mut
import RedisEmu.Props.C01
import RedisEmu.Props.C05
/-
  C15 — RESP2 and RESP3 carry the same information. Theorems about `down` (= `resp3To2` of
  `resp.go` after the repair of D03) and about HELLO.
-/
namespace RedisEmu

mutual
  /-- **Under RESP2 only RESP2 types are emitted**: the down-conversion of any reply a handler can
      build — nil, nested arrays, maps, sets, doubles, big numbers, booleans, verbatim text, blob
      errors, pair lists — contains RESP2 types only. -/
  theorem down_isResp2 : ∀ (v : Value), v.replyShape = true → (down v).isResp2 = true
    | .simple _, _ | .error _, _ | .int _, _ | .bulk _, _ | .nil, _ | .null, _ => rfl
    | .double _, _ | .big _, _ | .verbatim _ _, _ | .blobErr _, _ => rfl
    | .bool true, _ | .bool false, _ => rfl
    | .array xs, h | .set xs, h => downList_allResp2 xs h
    | .map kvs, h | .attr kvs, h => downMap_allResp2 kvs h
    | .pairs kvs, h => flatPairs_allResp2 kvs h
    | .push _ _, h | .endMark, h => nomatch h
  theorem downList_allResp2 : ∀ (xs : List Value), Value.allShape xs = true → Value.allResp2 (downList xs) = true
    | [], _ => by simp [downList, Value.allResp2]
    | x :: xs, h => by
        simp only [Value.allShape, Bool.and_eq_true] at h
        simp only [downList, Value.allResp2, Bool.and_eq_true]
        exact ⟨down_isResp2 x h.1, downList_allResp2 xs h.2⟩
  theorem downMap_allResp2 : ∀ (kvs : List (Value × Value)), Value.pairsShape kvs = true →
      Value.allResp2 (downMap kvs) = true
    | [], _ => by simp [downMap, Value.allResp2]
    | (k, v) :: r, h => by
        simp only [Value.pairsShape, Bool.and_eq_true] at h
        simp only [downMap, Value.allResp2, Value.isResp2, Bool.true_and, Bool.and_eq_true]
        exact ⟨down_isResp2 v h.1, downMap_allResp2 r h.2⟩
  theorem flatPairs_allResp2 : ∀ (kvs : List (Value × Value)), Value.pairsScalar kvs = true →
      Value.allResp2 (flatPairs kvs) = true
    | [], _ => by simp [flatPairs, Value.allResp2]
    | (k, v) :: r, h => by
        simp only [Value.pairsScalar, Bool.and_eq_true] at h
        simp only [flatPairs, Value.allResp2, Bool.and_eq_true]
        exact ⟨h.1.1, h.1.2, flatPairs_allResp2 r h.2⟩
end

mutual
  /-- map keys are bulk strings (what every handler produces) -/
  def Value.bulkKeys : Value → Bool
    | .array xs | .set xs => Value.allBulkKeys xs
    | .map kvs | .attr kvs => Value.kvBulkKeys kvs
    | .pairs _ => false
    | _ => true
  def Value.allBulkKeys : List Value → Bool
    | [] => true
    | x :: xs => x.bulkKeys && Value.allBulkKeys xs
  def Value.kvBulkKeys : List (Value × Value) → Bool
    | [] => true
    | (k, v) :: r => (match k with | .bulk _ => true | _ => false) && v.bulkKeys && Value.kvBulkKeys r
end

mutual
  /-- **`resp3To2` is the canonical down-conversion**: map → flat key/value array (same keys, values
      converted, same order), set → array, double / big number / verbatim → string, boolean → 0/1,
      null → nil, nesting preserved — for every reply whose map keys are bulk strings. -/
  theorem down_eq_spec : ∀ (v : Value), v.bulkKeys = true → down v = downSpec v
    | .simple _, _ | .error _, _ | .int _, _ | .bulk _, _ | .nil, _ | .null, _ => rfl
    | .double _, _ | .big _, _ | .verbatim _ _, _ | .blobErr _, _ => rfl
    | .bool true, _ | .bool false, _ => rfl
    | .push _ _, _ | .endMark, _ => rfl
    | .array xs, h | .set xs, h => congrArg Value.array (downList_eq_spec xs h)
    | .map kvs, h | .attr kvs, h => congrArg Value.array (downMap_eq_spec kvs h)
    | .pairs _, h => nomatch h
  theorem downList_eq_spec : ∀ (xs : List Value), Value.allBulkKeys xs = true → downList xs = downSpecList xs
    | [], _ => by simp [downList, downSpecList]
    | x :: xs, h => by
        simp only [Value.allBulkKeys, Bool.and_eq_true] at h
        simp only [downList, downSpecList]
        rw [down_eq_spec x h.1, downList_eq_spec xs h.2]
  theorem downMap_eq_spec : ∀ (kvs : List (Value × Value)), Value.kvBulkKeys kvs = true → downMap kvs = downSpecMap kvs
    | [], _ => by simp [downMap, downSpecMap]
    | (k, v) :: r, h => by
        simp only [Value.kvBulkKeys, Bool.and_eq_true] at h
        simp only [downMap, downSpecMap]
        rw [down_eq_spec v h.1.2, downMap_eq_spec r h.2]
        have hk := h.1.1
        split at hk
        · rfl
        · cases hk
end

/-- the element count of a flattened map is twice the number of pairs: nothing is dropped -/
theorem downMap_length (kvs : List (Value × Value)) : (downMap kvs).length = 2 * kvs.length := by
  induction kvs with
  | nil => rfl
  | cons p r ih => obtain ⟨k, v⟩ := p; simp [downMap, ih]; omega

mutual
  /-- values that already are RESP2 pass through unchanged (commands whose reply has no RESP3-only
      type answer identically under both protocols) -/
  theorem down_id_on_resp2 : ∀ (v : Value), v.isResp2 = true → down v = v
    | .simple _, _ | .error _, _ | .int _, _ | .bulk _, _ | .nil, _ => rfl
    | .array xs, h => congrArg Value.array (downList_id xs h)
    | .null, h | .map _, h | .set _, h | .attr _, h | .push _ _, h | .double _, h | .bool _, h | .blobErr _, h
    | .verbatim _ _, h | .big _, h | .pairs _, h | .endMark, h => nomatch h
  theorem downList_id : ∀ (xs : List Value), Value.allResp2 xs = true → downList xs = xs
    | [], _ => by simp [downList]
    | x :: xs, h => by
        simp only [Value.allResp2, Bool.and_eq_true] at h
        simp only [downList]
        rw [down_id_on_resp2 x h.1, downList_id xs h.2]
end

/-- the reply a connection receives is down-converted exactly when its own protocol is 2 -/
theorem reply_conversion_is_per_connection (c : Ctx) (v : Value) :
    downIf 2 c v = down v ∧ downIf 3 c v = v := by
  unfold downIf; simp

/-! ## every command: the reply is a proper reply value, and RESP2 connections receive RESP2 types only

  That each command function builds a proper reply value is the field `shape` of `Eff` (Proofs/Mut.lean),
  proved there once for every command function. -/

mutual
  theorem shape_of_resp2 : ∀ (v : Value), v.isResp2 = true → v.replyShape = true
    | .simple _, _ | .error _, _ | .int _, _ | .bulk _, _ | .nil, _ => rfl
    | .array xs, h => allShape_of_allResp2 xs h
    | .double _, h | .bool _, h | .big _, h | .verbatim _ _, h | .blobErr _, h | .map _, h | .pairs _, h
    | .set _, h | .attr _, h | .null, h | .push _ _, h | .endMark, h => nomatch h
  theorem allShape_of_allResp2 : ∀ (xs : List Value), Value.allResp2 xs = true → Value.allShape xs = true
    | [], _ => rfl
    | x :: xs, h => by
      simp only [Value.allResp2, Bool.and_eq_true] at h
      simp only [Value.allShape, shape_of_resp2 x h.1, allShape_of_allResp2 xs h.2, Bool.and_self]
end

/-- **Every reply a command builds is a proper reply value** (no push message, no stream end mark, scalar
    map keys), whatever the command, its arguments and the state — the premise of `down_isResp2`. -/
theorem runCmd_reply_shape (c : Ctx) (s : State) (conn ref : Nat) (m : Bool) (cmd : Cmd) :
    (runCmd c s conn ref m cmd).reply.replyShape = true :=
  runCmd_cases (P := fun o => o.reply.replyShape = true) c s conn ref m cmd
    (fun f hf => (hf.effAny _).shape) (fun v hv => by cases v <;> first | rfl | cases hv)
    (fun hs => shape_of_resp2 _ (runCmd_session c s conn ref m cmd hs).1)

theorem downIf_shape (resp : Int) (c : Ctx) (v : Value) (h : v.replyShape = true) : (downIf resp c v).replyShape = true := by
  unfold downIf
  split
  · exact shape_of_resp2 _ (down_isResp2 v h)
  · exact h

/-- every element of EXEC's reply is a proper reply value -/
theorem execQueue_allShape (conn : Nat) (q : List Queued) :
    ∀ (c : Ctx) (impls : List Value) (s : State) (vs : List Value) (hs : List Match) (ps : List (Nat × Bytes × Nat)),
      Value.allShape vs = true → Value.allShape (execQueue c conn q impls s vs hs ps).2.1 = true := by
  intro c impls s vs hs ps
  -- the cases of `execQueue`: 1 the queue is done, 2 an entry without words, 3 an unmodelled command,
  -- 4 arguments that do not parse, 5 the handler crashes, 6 the command has run
  fun_induction execQueue c conn q impls s vs hs ps <;> intro h
  case case1 | case5 => exact allShape_reverse _ h
  case case2 ih => exact ih h
  case case3 ih | case4 ih => exact ih (allShape_cons rfl h)
  case case6 ih => exact ih (allShape_cons (downIf_shape _ _ _ (runCmd_reply_shape ..)) h)

theorem downIf_id_resp2 (resp : Int) (c : Ctx) (v : Value) (h : v.isResp2 = true) : downIf resp c v = v := by
  unfold downIf
  split
  · exact down_id_on_resp2 v h
  · rfl

/-- what a connection receives is the protocol-independent reply value of the command, converted
    according to the protocol the connection speaks when the reply is written -/
theorem dispatchParsed_reply_form (c : Ctx) (s : State) (conn : Nat) (argv : List Bytes) (cmd : Cmd) :
    ∃ v : Value, v.replyShape = true ∧
      (dispatchParsed c s conn argv cmd).reply = downIf ((dispatchParsed c s conn argv cmd).st.session conn).resp c v := by
  refine dispatchParsed_cases (P := fun o => ∃ v : Value, v.replyShape = true ∧ o.reply = downIf (o.st.session conn).resp c v)
    c s conn argv cmd (fun st r hr => ⟨r, shape_of_resp2 r hr, (downIf_id_resp2 _ c r hr).symm⟩)
    (fun m => ⟨_, runCmd_reply_shape .., rfl⟩) (fun q s1 vs hs ps crash he => ⟨.array vs, ?_, ?_⟩)
  · have := execQueue_allShape conn q c (implElems c) s [] [] [] rfl
    rwa [he] at this
  · dsimp only
    split
    · rfl
    · rw [session_setSession]

/-- **Under RESP2 only RESP2 types are ever emitted.** Whatever command a connection sends — inside or
    outside MULTI, EXEC with everything it runs included — if the connection speaks RESP2 when the reply
    is written, the reply consists of RESP2 types only (simple string, error, integer, bulk string, nil,
    arrays of those); and it is the canonical down-conversion of the value the same command yields for a
    RESP3 connection (`dispatchParsed_reply_form`). -/
theorem dispatchParsed_resp2_only (c : Ctx) (s : State) (conn : Nat) (argv : List Bytes) (cmd : Cmd)
    (h2 : ((dispatchParsed c s conn argv cmd).st.session conn).resp = 2) :
    (dispatchParsed c s conn argv cmd).reply.isResp2 = true := by
  obtain ⟨v, hv, hr⟩ := dispatchParsed_reply_form c s conn argv cmd
  rw [hr, h2, (reply_conversion_is_per_connection c v).1]
  exact down_isResp2 v hv

/-! ### a RESP3 reply on the wire: C01's reader, C05's invariant -/

/-- **HGETALL on a RESP3 connection.** In every database that commands can reach (`Db.Distinct`, C05: no field twice)
    the map HGETALL sends for a live hash is read back by a RESP3 reader as exactly that map — every field and value
    byte for byte, in the order sent, whatever follows in the stream — provided the sizes fit a 64-bit length field. -/
theorem hgetall_reply_read_back (c : Ctx) (db : Db) (k : Bytes) (e : Entry) (h : List (Bytes × Bytes)) (rest : Bytes)
    (hi : db.Distinct) (hl : db.live c.now k = some e) (hv : e.val = .hash h)
    (hc : h.length < 2 ^ 63) (hs : ∀ fv ∈ h, fv.1.length < 2 ^ 63 ∧ fv.2.length < 2 ^ 63) :
    parseRes (ser (cmdHGetAll c db k).reply ++ rest) =
      .complete (cmdHGetAll c db k).reply (ser (cmdHGetAll c db k).reply).length := by
  let kvs := h.map fun fv => (fv.1, Value.bulk fv.2)
  -- the reply is the map of the stored pairs `kvs`, and a reader takes bulk strings as they are
  have hr : (cmdHGetAll c db k).reply = .map (mapEntries kvs) := by
    unfold cmdHGetAll hashOf
    simp [hl, hv, mapEntries, kvs]
  have hcan : canonEntries kvs = mapEntries kvs := by simp [canonEntries, mapEntries, canon, kvs]
  have hd : (kvs.map (·.1)).Nodup := by
    have := live_distinct hi hl
    rw [hv] at this
    rwa [List.map_map]
  have hw : ∀ kv ∈ kvs, kv.1.length < 2 ^ 63 ∧ kv.2.wire = true := fun kv hkv => by
    obtain ⟨fv, hfv, rfl⟩ := List.mem_map.mp hkv
    simp [Value.wire, hs fv hfv]
  rw [hr, map_reply_is_one_value kvs hd (by simpa [kvs] using hc) hw rest, hcan]

end RedisEmu
