import RedisEmu.Exec
import RedisEmu.Proofs.GoArithBits
import Mathlib.Tactic.SplitIfs
/-
  C18 — bitmap commands. Theorems about `RedisEmu.Bits` (family `bits` of the correspondence run
  and the pure-function grid over the hook exports).
-/
namespace RedisEmu

/-! ### signed overflow detection of BITFIELD INCRBY -/

/-- For every width below 64 the Go test (computed in wrapped int64) is exactly
    "the true sum leaves the signed `bits`-wide range", for every field value in range and every
    int64 increment. -/
theorem signedOverflow_correct_below_64 (a b : Int) (bits : Nat) (hb1 : 1 ≤ bits) (hb2 : bits < 64)
    (ha : -(2 : Int) ^ (bits - 1) ≤ a ∧ a < (2 : Int) ^ (bits - 1)) (hb : inRange64 b = true) :
    goSignedSumOverflow a b bits = specSignedOverflow a b bits := by
  have hP1 : (0 : Int) < (2 : Int) ^ (bits - 1) := Int.pow_pos (by decide)
  have hP2 : (2 : Int) ^ (bits - 1) ≤ 2 ^ 62 := by
    exact_mod_cast Nat.pow_le_pow_right (by decide : 2 > 0) (by omega : bits - 1 ≤ 62)
  rw [inRange64_iff] at hb
  unfold goSignedSumOverflow specSignedOverflow wrap64 twoP63 twoP64
  generalize (2 : Int) ^ (bits - 1) = P at *
  -- with `P ≤ 2^62` none of `P - 1`, `-P`, `P - 1 - a`, `-P - a` leaves int64: every `wrap64` is the identity
  rw [Bool.eq_iff_iff]
  by_cases hpos : b > 0 <;> simp only [hpos, ↓reduceIte, decide_eq_true_eq, Bool.or_eq_true] <;> omega

/-- D45: for i64 the wrapped test reports an overflow that does not exist (-1 + 1) -/
theorem signedOverflow_wrong_at_64 :
    goSignedSumOverflow (-1) 1 64 = true ∧ specSignedOverflow (-1) 1 64 = false := by
  decide

/-! ### writes touch only the addressed bits; reads return what was written -/

theorem testBit_255_sub (x t : Nat) (hx : x < 256) : (255 - x).testBit t = (decide (t < 8) && !x.testBit t) := by
  rw [show 255 - x = 2 ^ 8 - (x + 1) by omega]; exact Nat.testBit_two_pow_sub_succ hx t

theorem setBitInByte_spec (b : UInt8) (pos j : Nat) (v : Bool) (hp : pos < 8) (hj : j < 8) :
    (setBitInByte b pos v).toNat.testBit (7 - j) = (if j = pos then v else b.toNat.testBit (7 - j)) := by
  have hlt : 7 - j < 8 := by omega
  have hm : 2 ^ (7 - pos) < 256 := Nat.pow_lt_pow_right (by decide) (by omega : 7 - pos < 8)
  have hjp : (7 - pos = 7 - j) ↔ j = pos := by omega
  unfold setBitInByte
  -- `||| 2^(7-pos)` sets, `&&& (255 - 2^(7-pos))` clears exactly bit `7 - pos`; `toUInt8` cuts nothing off below bit 8
  cases v <;>
    simp only [Bool.false_eq_true, ↓reduceIte, Nat.toUInt8_eq, UInt8.toNat_ofNat', Nat.testBit_mod_two_pow, hlt,
      decide_true, Bool.true_and, Nat.testBit_or, Nat.testBit_and, testBit_255_sub _ _ hm, Nat.testBit_two_pow, hjp]
  all_goals by_cases h : j = pos <;> simp [h]

theorem setBitInByte_testBit :
    ∀ n < 256, ∀ pos < 8, ∀ j < 8, ∀ v : Bool,
      (setBitInByte (UInt8.ofNat n) pos v).toNat.testBit (7 - j) =
        (if j = pos then v else (UInt8.ofNat n).toNat.testBit (7 - j)) :=
  fun n _ pos hp j hj v => setBitInByte_spec (UInt8.ofNat n) pos j v hp hj

theorem setBit1_length (s : Bytes) (i : Nat) (v : Bool) : (setBit1 s i v).length = s.length := by
  unfold setBit1
  cases s[i / 8]? <;> simp

theorem bitAt_setBit1 (s : Bytes) (i j : Nat) (v : Bool) (hi : i < 8 * s.length) :
    bitAt (setBit1 s i v) j = (if j = i then v else bitAt s j) := by
  have hidx : i / 8 < s.length := by omega
  have hget : s[i / 8]? = some s[i / 8] := List.getElem?_eq_getElem hidx
  simp only [setBit1, hget, bitAt]
  by_cases hb : j / 8 = i / 8
  · -- the byte written: within one byte the position inside it tells the bits apart
    rw [hb, List.getElem?_set_self hidx, hget]
    simp only [setBitInByte_spec _ _ _ _ (Nat.mod_lt i (by omega)) (Nat.mod_lt j (by omega)),
      show (j % 8 = i % 8) ↔ (j = i) by omega]
  · rw [List.getElem?_set_ne (Ne.symm hb), if_neg (fun e => hb (by rw [e]))]

theorem length_foldl_setBit1 (p : Nat → Nat) (g : Nat → Bool) (l : List Nat) (s : Bytes) :
    (l.foldl (fun acc j => setBit1 acc (p j) (g j)) s).length = s.length := by
  induction l generalizing s with
  | nil => rfl
  | cons j l ih => rw [List.foldl_cons, ih, setBit1_length]

theorem bitAt_foldl_setBit1 (g : Nat → Bool) (a n : Nat) (s : Bytes) (h : a + n ≤ 8 * s.length) (x : Nat) :
    bitAt ((List.range n).foldl (fun acc j => setBit1 acc (a + j) (g j)) s) x =
      (if a ≤ x ∧ x < a + n then g (x - a) else bitAt s x) := by
  induction n with
  | zero => simp [show ¬ (a ≤ x ∧ x < a) by omega]
  | succ n ih =>
    rw [List.range_succ, List.foldl_append, List.foldl_cons, List.foldl_nil,
      bitAt_setBit1 _ _ _ _ (by rw [length_foldl_setBit1]; omega), ih (by omega)]
    by_cases hx : x = a + n
    · subst hx; simp
    · simp only [hx, ↓reduceIte, show (a ≤ x ∧ x < a + (n + 1)) ↔ (a ≤ x ∧ x < a + n) by omega]

/-- BITFIELD SET / SETBIT: after writing the low `w` bits of `val` at offset `a`, bit `x` of the
    string is bit `a+w-1-x` of the value inside the field and unchanged outside it -/
theorem bitAt_setBits (s : Bytes) (a w val x : Nat) (h : a + w ≤ 8 * s.length) :
    bitAt (setBits s a w val) x =
      (if a ≤ x ∧ x < a + w then val.testBit (a + w - 1 - x) else bitAt s x) := by
  rw [setBits, bitAt_foldl_setBit1 _ a w s h x]
  split_ifs
  · congr 1; omega
  · rfl

theorem setBits_length (s : Bytes) (a w val : Nat) (h : a + w ≤ 8 * s.length) :
    (setBits s a w val).length = s.length :=
  length_foldl_setBit1 ..

theorem extractBits_succ (s : Bytes) (a w : Nat) :
    extractBits s a (w + 1) = Nat.bit (bitAt s (a + w)) (extractBits s a w) := by
  simp only [extractBits, List.range_succ, List.foldl_append, List.foldl_cons, List.foldl_nil, Nat.bit_val]
  cases bitAt s (a + w) <;> simp [Nat.mul_comm]

theorem extractBits_testBit (s : Bytes) (a w t : Nat) :
    (extractBits s a w).testBit t = (decide (t < w) && bitAt s (a + w - 1 - t)) := by
  induction w generalizing t with
  | zero => simp [extractBits]
  | succ w ih =>
    rw [extractBits_succ]
    cases t with
    | zero => rw [Nat.testBit_bit_zero]; simp
    | succ t =>
      rw [Nat.testBit_succ, Nat.bit_div_two, ih, show a + (w + 1) - 1 - (t + 1) = a + w - 1 - t by omega]
      simp

/-- GET after SET on the same field returns the value written, reduced to the field width;
    this holds for every string, every (aligned or unaligned) offset and every width -/
theorem extract_after_set (s : Bytes) (a w val : Nat) (h : a + w ≤ 8 * s.length) :
    extractBits (setBits s a w val) a w = val % 2 ^ w := by
  apply Nat.eq_of_testBit_eq
  intro t
  rw [extractBits_testBit, Nat.testBit_mod_two_pow]
  by_cases ht : t < w
  · rw [bitAt_setBits _ _ _ _ _ h, if_pos (by omega), show a + w - 1 - (a + w - 1 - t) = t by omega]
  · simp [ht]

theorem extractBits_congr {s s' : Bytes} {a w : Nat} (h : ∀ x, a ≤ x → x < a + w → bitAt s x = bitAt s' x) :
    extractBits s a w = extractBits s' a w := by
  induction w with
  | zero => rfl
  | succ w ih =>
    rw [extractBits_succ, extractBits_succ, ih fun x h1 h2 => h x h1 (by omega), h _ (by omega) (by omega)]

/-- a field disjoint from the written one reads the same before and after -/
theorem extract_disjoint (s : Bytes) (a w val a' w' : Nat) (h : a + w ≤ 8 * s.length)
    (hd : a' + w' ≤ a ∨ a + w ≤ a') :
    extractBits (setBits s a w val) a' w' = extractBits s a' w' :=
  extractBits_congr fun x h1 h2 => by rw [bitAt_setBits _ _ _ _ _ h, if_neg (by omega)]

/-! ### BITOP: bit by bit, operands zero-padded to the longest -/

theorem bitAt_getD (s : Bytes) (j : Nat) : bitAt s j = (s.getD (j / 8) 0).toNat.testBit (7 - j % 8) := by
  rw [bitAt, List.getD_eq_getElem?_getD]
  cases s[j / 8]? <;> simp

/-- the boolean operation a BITOP name stands for (anything but AND / OR is XOR, as in `byteOp`) -/
def boolOp (op : Bytes) (x y : Bool) : Bool :=
  if op == sb "and" then x && y else if op == sb "or" then x || y else xor x y

theorem byteOp_testBit (op : Bytes) (a b : UInt8) (t : Nat) :
    (byteOp op a b).toNat.testBit t = boolOp op (a.toNat.testBit t) (b.toNat.testBit t) := by
  unfold byteOp boolOp
  split
  · rw [UInt8.toNat_and, Nat.testBit_and]
  · split
    · rw [UInt8.toNat_or, Nat.testBit_or]
    · rw [UInt8.toNat_xor, Nat.testBit_xor]

theorem getD_padTo (s : Bytes) (n i : Nat) : (padTo s n).getD i 0 = s.getD i 0 := by
  unfold padTo
  split
  · simp only [List.getD_eq_getElem?_getD, List.getElem?_append, List.getElem?_replicate]
    split_ifs <;> simp_all
  · rfl

theorem bitAt_padTo (s : Bytes) (n j : Nat) : bitAt (padTo s n) j = bitAt s j := by
  rw [bitAt_getD, bitAt_getD, getD_padTo]

theorem bitAt_bitopStep (op : Bytes) (acc x : Bytes) (L j : Nat) (hj : j < 8 * L) :
    bitAt ((List.range L).map fun i => byteOp op (acc.getD i 0) (x.getD i 0)) j =
      boolOp op (bitAt acc j) (bitAt x j) := by
  have hidx : j / 8 < L := by omega
  rw [bitAt_getD, bitAt_getD acc, bitAt_getD x, List.getD_eq_getElem?_getD, List.getElem?_map,
    List.getElem?_range hidx]
  exact byteOp_testBit op _ _ _

/-- **BITOP AND / OR / XOR**: every bit of the result is the operation applied, operand after operand, to
    the corresponding bits of the operands, each read as zero beyond its end -/
theorem bitop_bits (op : Bytes) (v : Bytes) (r : List Bytes) (L j : Nat) (hj : j < 8 * L) :
    bitAt (r.foldl (fun acc x => (List.range L).map fun i => byteOp op (acc.getD i 0) (x.getD i 0)) (padTo v L)) j =
      r.foldl (fun b x => boolOp op b (bitAt x j)) (bitAt v j) := by
  -- reading bit `j` commutes with every round of the fold
  rw [← bitAt_padTo v L]
  exact (List.foldl_hom (bitAt · j) fun acc x => (bitAt_bitopStep op acc x L j hj).symm).symm

/-- the result is as long as the longest operand (when there is more than one) -/
theorem bitop_length (op : Bytes) (L : Nat) (x : Bytes) (r : List Bytes) (acc : Bytes) :
    ((x :: r).foldl (fun acc x => (List.range L).map fun i => byteOp op (acc.getD i 0) (x.getD i 0)) acc).length = L := by
  induction r generalizing x acc with
  | nil => simp
  | cons y r ih => exact ih y _

/-- **BITOP NOT**: every bit inverted, same length -/
theorem bitop_not_bits (v : Bytes) (j : Nat) (hj : j < 8 * v.length) :
    bitAt (v.map fun b => (255 - b.toNat).toUInt8) j = !bitAt v j := by
  have hidx : j / 8 < v.length := by omega
  unfold bitAt
  rw [List.getElem?_map, List.getElem?_eq_getElem hidx]
  simp only [Option.map_some, Nat.toUInt8_eq, UInt8.toNat_ofNat', Nat.testBit_mod_two_pow,
    testBit_255_sub _ _ (UInt8.toNat_lt _), show 7 - j % 8 < 8 by omega, decide_true, Bool.true_and]

/-! ### BITCOUNT: the number of set bits -/

theorem popcount8_eq (b : UInt8) :
    popcount8 b = ((List.range 8).filter fun j => b.toNat.testBit (7 - j)).length := by
  -- the same eight positions, counted from the other end
  have : (List.range 8).map (7 - ·) = (List.range 8).reverse := by decide
  unfold popcount8
  rw [← List.length_reverse, ← List.filter_reverse, ← this, List.filter_map, List.length_map]
  rfl

theorem bitAt_cons_lt (b : UInt8) (r : Bytes) (j : Nat) (hj : j < 8) : bitAt (b :: r) j = b.toNat.testBit (7 - j) := by
  rw [bitAt_getD, Nat.div_eq_of_lt hj, Nat.mod_eq_of_lt hj]; rfl

theorem bitAt_cons_ge (b : UInt8) (r : Bytes) (j : Nat) : bitAt (b :: r) (j + 8) = bitAt r j := by
  rw [bitAt_getD, bitAt_getD r, Nat.add_div_right j (by decide), Nat.add_mod_right]; rfl

/-- the byte-wise population count is the number of set bit positions of the string -/
theorem popcount_bits (s : Bytes) :
    s.foldl (fun acc x => acc + popcount8 x) 0 = ((List.range (8 * s.length)).filter fun j => bitAt s j).length := by
  rw [← List.foldl_map (f := popcount8) (g := (· + ·)), ← List.sum_eq_foldl]
  induction s with
  | nil => rfl
  | cons b r ih =>
    -- the first eight positions are the bits of `b`, position `8 + j` is position `j` of the rest
    rw [List.map_cons, List.sum_cons, ih, popcount8_eq, List.length_cons,
      show 8 * (r.length + 1) = 8 + 8 * r.length by omega, List.range_add, List.filter_append, List.length_append,
      List.filter_map, List.length_map]
    exact congrArg₂ (· + ·)
      (congrArg _ (List.filter_congr fun j hj => (bitAt_cons_lt b r j (List.mem_range.mp hj)).symm))
      (congrArg _ (List.filter_congr fun j _ => by rw [Function.comp, Nat.add_comm, bitAt_cons_ge]))

/-- **BITCOUNT key** answers the number of set bits of the string -/
theorem bitcount_whole (c : Ctx) (db : Db) (k b : Bytes) (x : Option Int) (i : Nat)
    (hl : db.live c.now k = some { val := .str b, exp := x, id := i }) :
    (cmdBitCount c db k none).reply = vInt ((List.range (8 * b.length)).filter fun j => bitAt b j).length := by
  rw [← popcount_bits]
  unfold cmdBitCount
  simp only [hl]
  by_cases hb : b = []
  · subst hb; rfl
  · -- from byte 0 to byte `length - 1`: no clamp applies
    have hn : (0 : Int) < b.length := by have := List.length_pos_iff.mpr hb; omega
    simp only [List.isEmpty_iff, hb, ↓reduceIte, show ¬ (0 : Int) ≥ b.length by omega,
      show ¬ (b.length : Int) - 1 < 0 by omega, show ¬ (b.length : Int) - 1 ≥ b.length by omega, Int.lt_irrefl,
      decide_false, Bool.and_false, Bool.false_eq_true, R.ok, Int.toNat_zero, List.drop_zero,
      show ((b.length : Int) - 1 - 0 + 1).toNat = b.length by omega, List.take_length]

/-! ### the arithmetic of `bitMath.go`, `fnBitCount` and `fnSetBit` as translated on this run
    (`GoArith.lean`, written by `tools/go2lean` from /repo's working tree before every build) -/

/-- BITFIELD INCRBY / SET on a signed field: the Go test `isSignedSumOverflow`, for every width i1..i64,
    every field value of that width and every int64 operand, is what `bfStep` uses as "out of bounds" —
    the true sum leaves the signed range of the field. -/
theorem bitfield_signed_overflow_as_coded (a b : BitVec 64) (bits : Nat) (h1 : 1 ≤ bits) (h2 : bits ≤ 64)
    (hr : -(2 : Int) ^ (bits - 1) ≤ a.toInt ∧ a.toInt < (2 : Int) ^ (bits - 1)) :
    Go.isSignedSumOverflow a b (BitVec.ofNat 64 bits) = specSignedOverflow a.toInt b.toInt bits :=
  go_isSignedSumOverflow a b bits h1 h2 hr

/-- BITFIELD SET passes 0 as the field value: only the operand has to fit (`specSignedRange`) -/
theorem bitfield_set_overflow_as_coded (b : BitVec 64) (bits : Nat) (h1 : 1 ≤ bits) (h2 : bits ≤ 64) :
    Go.isSignedSumOverflow 0#64 b (BitVec.ofNat 64 bits) = specSignedRange b.toInt bits := by
  have hp : (0 : Int) < (2 : Int) ^ (bits - 1) := Int.pow_pos (by decide)
  rw [go_isSignedSumOverflow 0#64 b bits h1 h2 (by rw [BitVec.toInt_zero]; omega)]
  simp only [specSignedOverflow, specSignedRange, BitVec.toInt_zero, Int.zero_add]

/-- unsigned fields u1..u63: on a value that is not negative the Go test `isUnsignedOverflow` is
    "does not fit into the field" (the caller tests `newValue < 0` first) -/
theorem bitfield_unsigned_overflow_as_coded (v : BitVec 64) (bits : Nat) (h1 : 1 ≤ bits) (h2 : bits ≤ 63)
    (hv : 0 ≤ v.toInt) :
    Go.isUnsignedOverflow v (BitVec.ofNat 64 bits) = decide (v.toInt ≥ (2 : Int) ^ bits) :=
  go_isUnsignedOverflow v bits h2 hv

/-- OVERFLOW SAT: `saturateValue` gives the bound of the field on the side the operand pushes to -/
theorem bitfield_saturation_as_coded (v : BitVec 64) (bits : Nat) (h1 : 1 ≤ bits) :
    (bits ≤ 64 → (Go.saturateValue true v (BitVec.ofNat 64 bits)).toInt =
        if v.toInt < 0 then -(2 : Int) ^ (bits - 1) else (2 : Int) ^ (bits - 1) - 1) ∧
    (bits ≤ 63 → (Go.saturateValue false v (BitVec.ofNat 64 bits)).toInt =
        if v.toInt < 0 then 0 else (2 : Int) ^ bits - 1) :=
  ⟨fun h => go_saturateValue_signed v bits h1 h, fun h => go_saturateValue_unsigned v bits h⟩

/-- what the translator delivered on this run for the bitmap commands (each property pins its own part of the list, so
    that a function of another property that leaves the translatable subset does not touch this one) -/
theorem go_arith_translated_bits :
    ["isSignedSumOverflow", "isUnsignedOverflow", "saturateValue", "signExtend", "bitcountClamp", "bitcountMasks",
      "setbitOffsetGuard"].all (Go.translated.contains ·) = true := by decide

/-- `signExtend(value, bits)` translated from the Go source on this run: on a field value of width 1..64 it returns the
    two's-complement reading of the field — the model's `toSigned`, which `GET i<w>` and the signed `INCRBY` / `SET`
    of `bfStep` report.  (Shown through `BitVec.signExtend`: `go_signExtend_eq`.) -/
theorem bitfield_sign_extend_as_coded (w : Nat) (hw1 : 1 ≤ w) (hw : w ≤ 64) (u : Nat) (hu : u < 2 ^ w) :
    (Go.signExtend (BitVec.ofNat 64 u) (BitVec.ofNat 64 w)).toInt = toSigned u w :=
  go_signExtend w hw1 hw u hu

/-- non-vacuity: 0xff as i8 is -1, 0x7f stays 127, a full-width value is itself -/
theorem bitfield_sign_extend_examples :
    (Go.signExtend 255#64 8#64).toInt = -1 ∧ (Go.signExtend 127#64 8#64).toInt = 127 ∧
    (Go.signExtend 0x8000000000000000#64 64#64).toInt = -9223372036854775808 := by decide

/-- The range arithmetic of BITCOUNT translated from `fnBitCount` on this run (negative indexes from the end, a start
    beyond the end and an end before the start count nothing, the end clamped onto the last unit): it leaves early
    exactly when `bitcountBounds` is `none` and otherwise ends with the same first and last unit, for every pair of
    int64 arguments and every positive length (bytes, or bits in BIT mode). -/
theorem bitcount_range_as_coded (s e n : BitVec 64) (hn : 0 < n.toInt) :
    (match Go.bitcountClamp s e n with
     | (true, _, _) => none
     | (false, a, z) => some (a.toInt, z.toInt)) = bitcountBounds n.toInt s.toInt e.toInt :=
  go_bitcountClamp s e n hn

/-- … and `bitcountBounds` is what the model's BITCOUNT counts between (without the recorded deviation D44) -/
theorem bitcount_model_bounds (c : Ctx) (db : Db) (k b : Bytes) (e : Entry) (s t : Int) (m : Bool)
    (hq1 : c.q.bitcountClamp = false)
    (hl : db.live c.now k = some e) (hv : e.val = .str b) (hb : b.isEmpty = false) :
    (cmdBitCount c db k (some (s, t, m))).reply =
      match bitcountBounds (if m then (b.length : Int) * 8 else b.length) s t with
      | none => .int 0
      | some (a, z) =>
        if m then vInt ((List.range (z - a + 1).toNat).filter fun j => bitAt b (a.toNat + j)).length
        else vInt (((b.drop a.toNat).take (z - a + 1).toNat).foldl (fun acc x => acc + popcount8 x) 0) := by
  obtain ⟨v, ex, id⟩ := e
  simp only at hv; subst hv
  unfold cmdBitCount bitcountBounds
  simp only [hl, hb, hq1, Bool.false_eq_true, ↓reduceIte, Bool.not_false, Bool.true_and, decide_eq_true_eq]
  generalize (if m = true then (b.length : Int) * 8 else b.length) = n
  generalize (if s < 0 then n + s else s) = S
  generalize (if t < 0 then n + t else t) = T
  by_cases h1 : S ≥ n
  · simp only [h1, ↓reduceIte]; rfl
  · -- past the first test the model's second clamp of the start (`≥ length`) is dead, and so is its crash branch
    simp only [h1, ↓reduceIte]
    have hA : ¬ (if S < 0 then 0 else S) < 0 := by split_ifs <;> omega
    generalize (if S < 0 then 0 else S) = A at *
    by_cases h2 : T < A
    · simp only [h2, ↓reduceIte]; rfl
    · simp only [h2, hA, ↓reduceIte]; cases m <;> rfl

/-- non-vacuity: 3 bytes, `BITCOUNT k -2 -1` counts bytes 1..2; `5 9` nothing; `0 100` is clamped to 0..2 -/
theorem bitcount_range_examples :
    bitcountBounds 3 (-2) (-1) = some (1, 2) ∧ bitcountBounds 3 5 9 = none ∧ bitcountBounds 3 0 100 = some (0, 2) ∧
    Go.bitcountClamp (BitVec.ofInt 64 (-2)) (BitVec.ofInt 64 (-1)) 3#64 = (false, 1#64, 2#64) ∧
    (Go.bitcountClamp 5#64 9#64 3#64).1 = true := by decide

/-- The first-byte and last-byte masks of `countSetBitRange` (BITCOUNT … BIT) translated from the Go source on this run:
    for every pair of non-negative bit positions the first keeps the bits from position `start % 8` on, the second the
    bits up to position `end % 8` (position 0 = most significant bit, as `bitAt` numbers them: `masks_select`). -/
theorem bitcount_masks_as_coded (s e : BitVec 64) (hs : 0 ≤ s.toInt) (he : 0 ≤ e.toInt) :
    (Go.bitcountMasks s e).1.toNat = 2 ^ (8 - s.toNat % 8) - 1 ∧
    (Go.bitcountMasks s e).2.toNat = 256 - 2 ^ (7 - e.toNat % 8) :=
  go_bitcountMasks s e hs he

theorem bitcount_masks_examples : Go.bitcountMasks 3#64 13#64 = (0x1f#8, 0xfc#8) := by decide

/-- The offset test of `fnSetBit` (the `if` that answers "bit offset is not an integer or out of range"), translated on
    this run, is the test of the model's `cmdSetBit`: a negative offset, or one beyond the 2^32 bits a 512 MB string has. -/
theorem setbit_offset_guard_as_coded (o : BitVec 64) :
    Go.setbitOffsetGuard o = (decide (o.toInt < 0) || decide (o.toInt ≥ 4294967296)) :=
  go_setbitOffsetGuard o

/-- non-vacuity: i8, 100 + 100 overflows, 100 + 27 does not; i64 at the edge -/
theorem bitfield_signed_overflow_examples :
    Go.isSignedSumOverflow 100#64 100#64 8#64 = true ∧ Go.isSignedSumOverflow 100#64 27#64 8#64 = false ∧
    Go.isSignedSumOverflow (BitVec.ofInt 64 (-1)) 1#64 64#64 = false ∧
    Go.isSignedSumOverflow (BitVec.ofInt 64 9223372036854775807) 1#64 64#64 = true := by decide

/-- "is the new value out of bounds?" as `bitfieldWrite` decides it (lines "detect underflow and overflow"),
    with the helpers as translated from `bitMath.go` -/
def bfOutOfBoundsGo (signed isSet : Bool) (n value : BitVec 64) (bits : Nat) : Bool :=
  let newValue := if isSet then value else n + value
  if signed then
    (if isSet then Go.isSignedSumOverflow 0#64 value (BitVec.ofNat 64 bits)
     else Go.isSignedSumOverflow n value (BitVec.ofNat 64 bits))
  else BitVec.slt newValue 0#64 || Go.isUnsignedOverflow newValue (BitVec.ofNat 64 bits)

/-- … is the `oob` of the model's `bfStep` (quirks off): for a signed field the operand (SET) or the true sum
    (INCRBY) leaves the field's range; for an unsigned one the new value — the sum wrapped to 64 bits — is
    negative or does not fit. For every width, every field value of that width and every int64 operand. -/
theorem bitfield_out_of_bounds_as_coded (signed isSet : Bool) (n value : BitVec 64) (bits : Nat)
    (h1 : 1 ≤ bits) (hs : signed = true → bits ≤ 64) (hu : signed = false → bits ≤ 63)
    (hr : signed = true → -(2 : Int) ^ (bits - 1) ≤ n.toInt ∧ n.toInt < (2 : Int) ^ (bits - 1)) :
    bfOutOfBoundsGo signed isSet n value bits =
      (if signed then
         (if isSet then specSignedRange value.toInt bits else specSignedOverflow n.toInt value.toInt bits)
       else
         let newValue : Int := if isSet then value.toInt else wrap64 (n.toInt + value.toInt)
         decide (newValue < 0) || decide (newValue ≥ (2 : Int) ^ bits)) := by
  unfold bfOutOfBoundsGo
  cases signed
  · -- `isUnsignedOverflow` is exact on what is left once the caller's `newValue < 0` has failed
    have key : ∀ x : BitVec 64, (BitVec.slt x 0#64 || Go.isUnsignedOverflow x (BitVec.ofNat 64 bits)) =
        (decide (x.toInt < 0) || decide (x.toInt ≥ (2 : Int) ^ bits)) := by
      intro x
      simp only [BitVec.slt, BitVec.toInt_zero]
      by_cases hx : x.toInt < 0
      · simp only [hx, decide_true, Bool.true_or]
      · rw [go_isUnsignedOverflow x bits (hu rfl) (by omega)]
    cases isSet <;> simp only [Bool.false_eq_true, ↓reduceIte, key, toInt_add_wrap]
  · cases isSet <;> simp only [Bool.false_eq_true, ↓reduceIte]
    · exact go_isSignedSumOverflow n value bits h1 (hs rfl) (hr rfl)
    · exact bitfield_set_overflow_as_coded value bits h1 (hs rfl)

end RedisEmu
