import RedisEmu.Glob
import RedisEmu.Proofs.Mut
/-
  C06 — keyspace discipline (families `keys` and `mixed` of the correspondence run).
-/
namespace RedisEmu

structure Db.Inv (db : Db) : Prop where
  unique : (db.keys.map (·.1)).Nodup
  noEmpty : ∀ p ∈ db.keys, p.2.val.nonEmpty = true

theorem inv_init : ({} : Db).Inv := ⟨by simp, by simp⟩

theorem Db.Inv.toForall {db : Db} (h : db.Inv) : db.Forall fun _ v => v.nonEmpty = true := h.noEmpty

theorem inv_put (db : Db) (k : Bytes) (v : Val) (exp : Option Int) (h : db.Inv) (hv : v.nonEmpty = true) :
    (db.put k v exp).Inv :=
  ⟨uniq_put db k v exp h.unique, h.toForall.put hv exp⟩

theorem inv_poke (db : Db) (k : Bytes) (e : Entry) (h : db.Inv) (hv : e.val.nonEmpty = true) :
    (db.poke k e).Inv :=
  ⟨uniq_poke db k e h.unique, h.toForall.poke hv⟩

theorem inv_del (db : Db) (k : Bytes) (h : db.Inv) : (db.del k).Inv :=
  ⟨uniq_del db k h.unique, h.toForall.del k⟩

theorem inv_setDirty (db : Db) (h : db.Inv) : db.setDirty.Inv := ⟨h.unique, h.noEmpty⟩

theorem inv_dirtyUnlessQuirk (c : Ctx) (db : Db) (h : db.Inv) : (dirtyUnlessQuirk c db).Inv :=
  iteInduction (fun _ => h) fun _ => inv_setDirty _ h

/-- the in-place update used by every list / hash / set mutator: however the last element
    goes, an emptied aggregate is removed from the keyspace -/
theorem inv_update (db : Db) (k : Bytes) (e : Entry) (v : Val) (h : db.Inv) : (db.update k e v).Inv :=
  update_cases (P := Db.Inv) db k e v (fun _ => inv_setDirty _ (inv_del db k h))
    (fun hv => inv_setDirty _ (inv_poke db k _ h hv))

theorem inv_bump (c : Ctx) (db : Db) (e : Entry) (hi : db.Inv) : (bump c db e).1.Inv := by
  unfold bump; split
  · exact hi
  · exact ⟨hi.unique, hi.noEmpty⟩

theorem inv_upd (c : Ctx) (db : Db) (k : Bytes) (e : Entry) (v : Val) (h : db.Inv) : (upd c db k e v).Inv :=
  inv_update _ _ _ _ (inv_bump c db e h)

/-- after an update that emptied the aggregate the key is gone for every lookup -/
theorem update_empty_removes (db : Db) (k : Bytes) (e : Entry) (h : db.Inv) :
    (db.update k e (.list [])).raw k = none ∧ (db.update k e (.hash [])).raw k = none ∧
    (db.update k e (.set [])).raw k = none :=
  ⟨raw_update_empty db k e h.unique rfl, raw_update_empty db k e h.unique rfl, raw_update_empty db k e h.unique rfl⟩

/-! ### a command applied to a key of another type fails with WRONGTYPE and changes nothing -/

theorem wrongtype_inert_on_list (c : Ctx) (db : Db) (k : Bytes) (l : List Bytes) (x : Option Int) (i : Nat)
    (h : db.live c.now k = some { val := .list l, exp := x, id := i }) (v f : Bytes) (d : Int)
    (hv : (v.length : Int) ≤ hugeAlloc) :
    (cmdGet c db k = R.ok db wrongType) ∧ (cmdAppend c db k v = R.ok db wrongType) ∧
    (cmdIncrBy c db k d = R.ok db wrongType) ∧ (cmdStrlen c db k = R.ok db wrongType) ∧
    (cmdHSet c db k [(f, v)] false false = R.ok db wrongType) ∧ (cmdHGet c db k f = R.ok db wrongType) ∧
    (cmdHDel c db k [f] = R.ok db wrongType) ∧ (cmdHIncrBy c db k f d = R.ok db wrongType) ∧
    (cmdSAdd c db k [v] = R.ok db wrongType) ∧ (cmdSRem c db k [v] = R.ok db wrongType) ∧
    (cmdSCard c db k = R.ok db wrongType) ∧ (cmdSetRange c db k 0 v = R.ok db wrongType) ∧
    (cmdGetRange c db k 0 1 = R.ok db wrongType) ∧ (cmdGetDel c db k = R.ok db wrongType) := by
  have hh : hashOf c db k = .error () := by rw [hashOf, h]
  have hs : setOf c db k = .error () := by rw [setOf, h]
  have ha : setKey c db k v { get := true } true (!c.q.appendDropsTtl) = (db, none, true) := by rw [setKey, h]; rfl
  have h1 : ¬ ((0 : Int) > hugeAlloc) := by decide
  have h2 : ¬ (0 + (v.length : Int) > hugeAlloc) := by omega
  simp only [cmdGet, cmdAppend, cmdIncrBy, cmdStrlen, cmdHSet, cmdHGet, cmdHDel, cmdHIncrBy, cmdSAdd, cmdSRem, cmdSCard,
    cmdSetRange, cmdGetRange, cmdGetDel, hh, hs, ha, h, h1, h2]
  simp

theorem wrongtype_inert_on_string (c : Ctx) (db : Db) (k : Bytes) (b : Bytes) (xp : Option Int) (i : Nat)
    (h : db.live c.now k = some { val := .str b, exp := xp, id := i }) (v f : Bytes) (d : Int) (lft x : Bool) :
    (cmdPush c db k [v] lft x = R.ok db wrongType) ∧ (cmdPop c db k none lft = R.ok db wrongType) ∧
    (cmdLLen c db k = R.ok db wrongType) ∧ (cmdLRange c db k 0 1 = R.ok db wrongType) ∧
    (cmdLSet c db k 0 v = R.ok db wrongType) ∧ (cmdLRem c db k 0 v = R.ok db wrongType) ∧
    (cmdLTrim c db k 0 1 = R.ok db wrongType) ∧ (cmdLInsert c db k true v v = R.ok db wrongType) ∧
    (cmdHSet c db k [(f, v)] false false = R.ok db wrongType) ∧ (cmdHGetAll c db k = R.ok db wrongType) ∧
    (cmdHIncrBy c db k f d = R.ok db wrongType) ∧ (cmdSAdd c db k [v] = R.ok db wrongType) ∧
    (cmdSMembers c db k = R.ok db wrongType) ∧ (cmdSMove c db k f v = R.ok db wrongType) := by
  have hl : listOf c db k = .error () := by rw [listOf, h]
  have hh : hashOf c db k = .error () := by rw [hashOf, h]
  have hs : setOf c db k = .error () := by rw [setOf, h]
  simp only [cmdPush, cmdPop, cmdPop.go, cmdLLen, cmdLRange, cmdLSet, cmdLRem, cmdLTrim, cmdLInsert, cmdHSet, cmdHGetAll,
    cmdHIncrBy, cmdSAdd, cmdSMembers, cmdSMove, hl, hh, hs, and_self]

/-! ### RENAME and COPY carry the complete value of any type together with its deadline -/

theorem rename_carries (c : Ctx) (db : Db) (src dst : Bytes) (e : Entry)
    (h : srcLookup c db src = some e) :
    ((cmdRename c db src dst false).db.raw dst).map (fun x => (x.val, x.exp)) = some (e.val, e.exp) ∧
    (cmdRename c db src dst false).reply = vOK := by
  simp [cmdRename, h, R.ok, Db.raw]

theorem rename_removes_source (c : Ctx) (db : Db) (src dst : Bytes) (e : Entry) (hi : db.Inv)
    (h : srcLookup c db src = some e) (hne : (dst == src) = false) :
    (cmdRename c db src dst false).db.raw src = none := by
  rw [cmdRename, h]
  exact (raw_put_ne (db.del src) dst src e.val e.exp hne).trans (raw_del_self db src hi.unique)

theorem rename_missing_source (c : Ctx) (db : Db) (src dst : Bytes) (nx : Bool)
    (h : srcLookup c db src = none) :
    cmdRename c db src dst nx = R.ok db errNoSuchKey := by
  rw [cmdRename, h]

theorem copy_carries (c : Ctx) (db : Db) (src dst : Bytes) (e : Entry)
    (h : srcLookup c db src = some e) (hd : srcLookup c db dst = none) :
    ((cmdCopy c db src dst false).db.raw dst).map (fun x => (x.val, x.exp)) = some (e.val, e.exp) ∧
    (cmdCopy c db src dst false).reply = .int 1 := by
  have hb : (src == dst) = false := by
    simp only [beq_eq_false_iff_ne]; rintro rfl; simp [h] at hd
  simp [cmdCopy, hb, h, hd, R.ok, Db.raw]

theorem copy_no_replace_refused (c : Ctx) (db : Db) (src dst : Bytes) (e e' : Entry)
    (hne : src ≠ dst)
    (h : srcLookup c db src = some e) (hd : srcLookup c db dst = some e') :
    cmdCopy c db src dst false = R.ok db (.int 0) := by
  simp [cmdCopy, hne, h, hd]

/-- COPY of a key onto itself is refused (as Redis does) and changes nothing -/
theorem copy_same_key_refused (c : Ctx) (db : Db) (k : Bytes) (b : Bool) :
    (cmdCopy c db k k b).db = db ∧ (cmdCopy c db k k b).reply.isError = true := by
  simp [cmdCopy, R.ok, Value.isError]

/-! ### glob matching (`redisGlob`) -/

theorem glob_star_matches_all (cand : Bytes) : glob [42] cand = true := by
  cases cand <;> simp [glob, globAux]

theorem glob_empty_pattern (cand : Bytes) : glob [] cand = cand.isEmpty := by
  cases cand <;> simp [glob, globAux]

/-! ### SORT (repaired: it used to ignore BY / LIMIT / GET and to compare nothing) -/

/-- SORT without STORE never changes the database, whatever its options and whatever the keys hold -/
theorem sort_without_store_pure (c : Ctx) (db : Db) (key : Bytes) (by_ : Option Bytes) (limit : Option (Int × Int))
    (gets : List Bytes) (desc alpha : Bool) :
    (cmdSort c db key by_ limit gets desc alpha none).db = db := by
  fun_cases cmdSort c db key by_ limit gets desc alpha none <;> rfl

/-- SORT of a key that holds a string or a hash fails with WRONGTYPE and changes nothing, STORE or not -/
theorem sort_wrongtype_inert (c : Ctx) (db : Db) (key : Bytes) (by_ : Option Bytes) (limit : Option (Int × Int))
    (gets : List Bytes) (desc alpha : Bool) (store : Option Bytes)
    (h : sortSource c db key = .error ()) :
    cmdSort c db key by_ limit gets desc alpha store = R.ok db wrongType := by
  rw [cmdSort, h]

/-- SORT … STORE of a missing source removes the destination (no empty list is left behind) -/
theorem sort_store_missing_source (c : Ctx) (db : Db) (key d : Bytes) (by_ : Option Bytes) (limit : Option (Int × Int))
    (gets : List Bytes) (desc alpha : Bool) (h : sortSource c db key = .ok none) :
    cmdSort c db key by_ limit gets desc alpha (some d) = R.ok (db.del d) (.int 0) := by
  rw [cmdSort, h]; rfl

/-- what SORT … STORE leaves in the destination: exactly the result, as a list, never an empty one -/
theorem sortFinish_store (db : Db) (d : Bytes) (out : List Value) (hint : Match) (hne : out ≠ []) :
    ((sortFinish db (some d) out hint).db.raw d).map (·.val) =
      some (.list (out.map fun v => match v with | .bulk b => b | _ => [])) := by
  have : out.isEmpty = false := by cases out <;> simp_all
  simp only [sortFinish, this, Bool.false_eq_true, if_false, R.ok, raw_put_self, Option.map_some]
  rfl

theorem sortFinish_store_empty (db : Db) (d : Bytes) (hint : Match) :
    (sortFinish db (some d) [] hint).db = db.del d := rfl

theorem mapM_some' {α β} (f : α → β) (xs : List α) : xs.mapM (fun x => some (f x)) = some (xs.map f) :=
  List.mapM_pure

/-- with ALPHA and without BY, LIMIT and GET the reply is a rearrangement of the elements: nothing is
    lost, nothing invented, duplicates keep their number -/
theorem sort_is_rearrangement (c : Ctx) (db : Db) (xs : List Bytes) (isSet desc storing : Bool)
    (out : List Value) (hint : Match)
    (h : sortCompute c db xs isSet none none [] desc true storing = some (out, hint)) :
    out.Perm (xs.map Value.bulk) := by
  simp only [sortCompute, Bool.false_and, Bool.false_eq_true, if_false, Bool.not_false, Bool.or_false,
    if_true, Bool.and_true, mapM_some', List.isEmpty_nil, List.map_cons, List.map_nil, beq_self_eq_true,
    ← List.map_eq_flatMap] at h
  cases h
  -- what is left of `sortCompute`: the elements, sorted, each wrapped as a bulk string
  exact ((List.mergeSort_perm _ _).map _).trans (.of_eq List.map_map)

/-- **A command that fails changes nothing.** Whatever the command and its arguments, whatever the
    databases hold: if the reply is an error — wrong type, syntax, range, overflow, not a number, no such
    key, anything — every database of the server is exactly what it was: every key, value, deadline and
    version. -/
theorem failed_command_inert (c : Ctx) (s : State) (conn ref : Nat) (m : Bool) (cmd : Cmd)
    (h : (runCmd c s conn ref m cmd).reply.isError = true) :
    ∀ r, (runCmd c s conn ref m cmd).st.getDb r = s.getDb r := fun r =>
  runCmd_dbwise (Rel := fun v d d' => v.isError = true → d' = d) c s conn ref m cmd
    (fun _ _ _ => rfl) (fun _ h => by cases h) (fun _ hf => (hf.effAny _).inert) r h

theorem live_nonEmpty {db : Db} {now : Int} {k : Bytes} {e : Entry} (hi : db.Inv) (h : db.live now k = some e) :
    e.val.nonEmpty = true := hi.toForall.live h

theorem saddAll_nonEmpty {ms s : List Bytes} {n : Nat} {r} (hr : saddAll ms s n = r) (h : ms ≠ [] ∨ s ≠ []) :
    r.1 ≠ [] := by
  subst hr
  fun_induction saddAll ms s n with
  | case1 => simpa using h
  | case2 m r s n hc ih => exact ih (.inr fun hn => by simp [hn] at hc)
  | case3 m r s n hc ih => exact ih (.inr (by simp))

theorem hsetAll_nonEmpty {nx : Bool} {fvs h : List (Bytes × Bytes)} {n : Nat} {r} (hr : hsetAll nx fvs h n = r)
    (hh : fvs ≠ [] ∨ h ≠ []) : r.1 ≠ [] := by
  subst hr
  fun_induction hsetAll nx fvs h n with
  | case1 => simpa using hh
  | case2 f v r h n o hl _ ih => exact ih (.inr fun hn => by simp [hn, alookup] at hl)
  | case3 _ _ _ _ _ _ _ _ ih => exact ih (.inr (ainsert_ne_nil _ _ _))
  | case4 _ _ _ _ _ _ ih => exact ih (.inr (ainsert_ne_nil _ _ _))

/-! LMOVE creates its destination (empty) before it pops: between its two halves the invariant holds for
    every key but the destination, and the push restores it. -/

structure Db.InvX (k : Bytes) (db : Db) : Prop where
  unique : (db.keys.map (·.1)).Nodup
  noEmpty : ∀ p ∈ db.keys, (p.1 == k) = false → p.2.val.nonEmpty = true

theorem Db.InvX.toForall {k : Bytes} {db : Db} (h : db.InvX k) :
    db.Forall fun k' v => (k' == k) = false → v.nonEmpty = true := h.noEmpty

theorem invx_of_inv (k : Bytes) (db : Db) (h : db.Inv) : db.InvX k := ⟨h.unique, fun p hp _ => h.noEmpty p hp⟩

theorem invx_put_self (k : Bytes) (db : Db) (v : Val) (e : Option Int) (h : db.InvX k) : (db.put k v e).InvX k :=
  ⟨uniq_put db k v e h.unique, h.toForall.put (fun hne => by simp at hne) e⟩

theorem invx_update (k k' : Bytes) (db : Db) (e : Entry) (v : Val) (h : db.InvX k) : (db.update k' e v).InvX k :=
  update_cases (P := Db.InvX k) db k' e v (fun _ => ⟨uniq_del db k' h.unique, h.toForall.del k'⟩)
    (fun hv => ⟨uniq_poke db k' _ h.unique, h.toForall.poke fun _ => hv⟩)

theorem invx_bump (k : Bytes) (c : Ctx) (db : Db) (e : Entry) (h : db.InvX k) : (bump c db e).1.InvX k := by
  unfold bump; split
  · exact h
  · exact ⟨h.unique, h.noEmpty⟩

theorem invx_upd (k k' : Bytes) (c : Ctx) (db : Db) (e : Entry) (v : Val) (h : db.InvX k) : (upd c db k' e v).InvX k :=
  invx_update k k' _ _ _ (invx_bump k c db e h)

theorem inv_of_invx_poke (k : Bytes) (db : Db) (e : Entry) (h : db.InvX k) (hv : e.val.nonEmpty = true) : (db.poke k e).Inv := by
  refine ⟨uniq_poke db k e h.unique, fun p hp => ?_⟩
  rcases mem_ainsert_strong k _ db.keys p h.unique hp with rfl | ⟨hm, hne⟩
  · exact hv
  · exact h.noEmpty p hm hne

theorem plain_nonEmpty : Plain fun _ v => v.nonEmpty = true := ⟨fun _ _ => rfl, fun _ _ h => h, fun _ _ _ h => h⟩

/-- the invariant along the mutators, storing non-empty values only: one lemma per mutator -/
theorem Mut.inv {c : Ctx} {db d : Db} (h : Mut (fun _ v => v.nonEmpty = true) c db d) (hi : db.Inv) : d.Inv := by
  induction h with
  | refl => exact hi
  | put k v e _ hv ih => exact inv_put _ k v e ih hv
  | del k _ ih => exact inv_del _ k ih
  | setDirty _ ih => exact inv_setDirty _ ih
  | upd k e v _ _ ih => exact inv_upd _ _ k e v ih
  | touch k e' _ hb _ hv ih => exact inv_dirtyUnlessQuirk _ _ (inv_poke _ k e' (hb ▸ inv_bump _ _ _ ih :) hv)
  | unlink k e _ _ hv ih => exact inv_poke _ k e ih hv

/-- what the argument parser guarantees about the element lists of the creating commands -/
def Cmd.wf : Cmd → Bool
  | .push _ vs _ _ => !vs.isEmpty
  | .hset _ fvs _ _ => !fvs.isEmpty
  | .sadd _ ms => !ms.isEmpty
  | _ => true

def wfO (o : Option Cmd) : Prop := ∀ c, o = some c → c.wf = true
theorem wfO_none : wfO none := fun _ h => by cases h
theorem wfO_some {c : Cmd} (h : c.wf = true) : wfO (some c) := fun _ e => by cases e; exact h
/-! `wfO_pure` and `wfO_bind` are `wfO_some` and `wfO_bind'` for the spellings `pure`, `>>=` of the parser's `do` blocks:
    `wf_leaf` matches its rules at reducible transparency, which does not see through them. -/
theorem wfO_pure {c : Cmd} (h : c.wf = true) : wfO (pure c) := wfO_some h
theorem wfO_bind' {α} {x : Option α} {f : α → Option Cmd} (h : ∀ a, wfO (f a)) : wfO (x.bind f) := by
  cases x with
  | none => exact wfO_none
  | some a => exact h a
theorem wfO_bind {α} {x : Option α} {f : α → Option Cmd} (h : ∀ a, wfO (f a)) : wfO (x >>= f) := wfO_bind' h
theorem wfO_map {α} {x : Option α} {f : α → Cmd} (h : ∀ a, (f a).wf = true) : wfO (x.map f) := by
  cases x with
  | none => exact wfO_none
  | some a => exact wfO_some (h a)

/-- HSET / HMSET / HSETNX: the field-value list the parser builds from `f v …` is not empty -/
theorem wfO_hset (k f v : Bytes) (r : List Bytes) (x y : Bool) :
    wfO (Option.map (fun fvs => Cmd.hset k fvs x y) (pairsOf (f :: v :: r))) := by
  unfold pairsOf; rw [Option.map_map]; exact wfO_map fun _ => rfl

/-- `wfO` of a parser expression: along its `if`s, binds, maps and matches down to the commands it builds.
    The rules apply at reducible transparency: a rule that does not fit must not unfold the parser. `dsimp only`
    steps into a `let` or a `match` on a literal that stands between two of them. -/
macro "wf_leaf" : tactic => `(tactic| (repeat' (first
  | (with_reducible exact wfO_none)
  | ((with_reducible refine wfO_some ?_); rfl)
  | ((with_reducible refine wfO_pure ?_); rfl)
  | ((with_reducible refine wfO_map fun _ => ?_); rfl)
  | (with_reducible refine wfO_bind fun _ => ?_)
  | (with_reducible refine wfO_bind' fun _ => ?_)
  | ((with_reducible apply iteInduction) <;> intro _)
  | split
  | dsimp only)))

/-- LMPOP's argument list (also BLMPOP's after the timeout) never yields a creating command -/
theorem wfO_parseLmpop (a : List Bytes) : wfO (parseLmpop a) := by
  fun_cases parseLmpop a <;> wf_leaf

theorem parseCmd_wf (name : Bytes) (args : List Bytes) (cmd : Cmd) (h : parseCmd name args = some cmd) :
    cmd.wf = true := by
  refine (?_ : wfO _) cmd h
  fun_cases parseCmd name args <;>
    first | (with_reducible exact wfO_parseLmpop _) | (with_reducible exact wfO_hset ..) | wf_leaf

theorem parseCmdQ_wf (q : Quirks) (name : Bytes) (args : List Bytes) (cmd : Cmd) (h : parseCmdQ q name args = some cmd) :
    cmd.wf = true := by
  refine (?_ : wfO _) cmd h
  fun_cases parseCmdQ q name args
  · fun_cases sintercardByNumkeys args <;> wf_leaf
  · exact parseCmd_wf name args

/-- LMOVE between two keys creates its destination (empty) before it pops: between the two halves the invariant holds
    for every key but the destination (`InvX`), and the push restores it. -/
theorem lmove_inv (c : Ctx) (db : Db) (k k2 : Bytes) (b b2 : Bool) (h : db.Inv) : (cmdLMove c db k k2 b b2).db.Inv := by
  have hdb := h.toForall
  fun_cases cmdLMove c db k k2 b b2
  case case8 db1 db2 de _ _ dl' _ _ hb =>
    -- destination created if missing, source updated, destination pushed
    have h1 : db1.InvX k2 := by
      simp only [db1]; split
      · exact invx_put_self k2 db _ _ (invx_of_inv k2 db h)
      · exact invx_of_inv k2 db h
    have h3 := invx_bump k2 c db2 de (invx_upd k2 k c db1 _ _ h1)
    rw [hb] at h3
    refine inv_setDirty _ (inv_of_invx_poke k2 _ _ h3 (nonEmpty_list ?_))
    simp only [dl']; split <;> simp
  all_goals mut_leaf Mut.inv (c := c)

/-- every command function, run for a command the argument parser can produce, keeps the invariant: the `plain` ones
    by `CmdFn.eff`; of the ten that build aggregates, the creating ones store what their arguments give them, which
    must not be empty (`Cmd.wf`) -/
theorem CmdFn.inv {c : Ctx} {cmd : Cmd} {f : Db → R} (hf : CmdFn c cmd f) (hw : cmd.wf = true) (db : Db) (h : db.Inv) :
    (f db).db.Inv := by
  by_cases hpl : cmd.plain = true
  · exact (hf.eff plain_nonEmpty (.inl hpl) db h.toForall).step.inv h
  have hdb := h.toForall   -- what `mutation` knows of the values a lookup found
  cases hf <;> first | exact absurd rfl hpl | dsimp only
  case lmove => exact lmove_inv (h := h) ..
  case push k vs _ _ =>
    have hvs : vs ≠ [] := by simpa [Cmd.wf] using hw
    fun_cases cmdPush <;> mut_leaf Mut.inv (c := c)
    all_goals simp [Val.nonEmpty, hvs]
  case hset =>
    fun_cases cmdHSet <;> mut_leaf Mut.inv (c := c)
    exact nonEmpty_hash (hsetAll_nonEmpty (by assumption) (.inl (by simpa [Cmd.wf] using hw)))
  case hdel => fun_cases cmdHDel <;> mut_leaf Mut.inv (c := c)
  case hincrby =>
    fun_cases cmdHIncrBy <;> mut_leaf Mut.inv (c := c)
    rfl
  case hincrbyfloat =>
    fun_cases cmdHIncrByFloat <;> mut_leaf Mut.inv (c := c)
    all_goals first | rfl | exact nonEmpty_hash (ainsert_ne_nil _ _ _)
  case sadd =>
    fun_cases cmdSAdd <;> mut_leaf Mut.inv (c := c)
    exact nonEmpty_set (saddAll_nonEmpty (by assumption) (.inl (by simpa [Cmd.wf] using hw)))
  case srem => fun_cases cmdSRem <;> mut_leaf Mut.inv (c := c)
  case smove =>
    fun_cases cmdSMove <;> mut_leaf Mut.inv (c := c)
    rfl
  case salgStore =>
    fun_cases cmdSetAlgebraStore <;> mut_leaf Mut.inv (c := c)
    simp [Val.nonEmpty, *]

def State.KInv (s : State) : Prop := ∀ r, (s.getDb r).Inv

theorem kinv_init : ({} : State).KInv := fun _ => inv_init

/-- **No empty key, no duplicate key — after any command.** Every command the argument parser can
    produce (`parseCmdQ_wf`), with any arguments, on any state whose databases satisfy the invariant,
    leaves every database of the server with unique keys and without an empty list, hash or set —
    however the last element went (pop, LREM, LTRIM, LMOVE, SREM, SMOVE, HDEL, SPOP-like paths, STORE forms
    with an empty result, SORT … STORE of nothing). -/
theorem runCmd_inv (c : Ctx) (s : State) (conn ref : Nat) (m : Bool) (cmd : Cmd) (hw : cmd.wf = true)
    (hs : s.KInv) : (runCmd c s conn ref m cmd).st.KInv :=
  runCmd_dbwise (Rel := fun _ _ d' => d'.Inv) c s conn ref m cmd (fun _ r => hs r)
    (fun _ => ⟨by simp [flushed], by simp [flushed]⟩) (fun _ hf => hf.inv hw _ (hs ref))

/-- any history of commands the parser can produce keeps the invariant in every database -/
theorem runEvents_inv (evs : List Ev) : ∀ (s : State), s.KInv → (∀ e ∈ evs, e.cmd.wf = true) →
    (runEvents s evs).KInv := fun s hs hw =>
  runEvents_keeps (P := State.KInv) (fun e s hw hs => runCmd_inv e.c s e.conn e.ref e.inMulti e.cmd hw hs) evs hw s hs

/-- **A list, hash or set never exists empty** — in any database, after any history of commands
    starting from the empty server: whatever is stored under a key has at least one element, and no key
    is stored twice. -/
theorem reachable_no_empty_key (evs : List Ev) (hw : ∀ e ∈ evs, e.cmd.wf = true) (r : Nat) (k : Bytes) (e : Entry)
    (now : Int) (h : ((runEvents {} evs).getDb r).live now k = some e) : e.val.nonEmpty = true :=
  live_nonEmpty (runEvents_inv evs {} kinv_init hw r) h

end RedisEmu
