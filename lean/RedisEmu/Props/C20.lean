import RedisEmu.Lifecycle
import Mathlib.Tactic.SplitIfs
/-
  C20 — lifecycle (partial). Theorems about `RedisEmu.Lifecycle`; the `life` tool runs real start /
  stop cycles on one port with clients in every activity state. TCP TIME_WAIT, signals and `os.Exit`
  on a bind failure are not modelled.
-/
namespace RedisEmu

/-- **Close returns whatever the clients are doing.** After `RequestTermination` every member of the
    wait group has ended — the condition does not mention the connections at all, so idle,
    mid-pipeline, in-MULTI and forever-blocked clients cannot delay it. -/
theorem wait_returns_after_termination (e : Emu) : e.requestTermination.waitReturns = true := by
  unfold Emu.waitReturns Emu.requestTermination
  simp only [List.all_eq_true]
  intro w _
  cases w <;> simp [Emu.workerDone]

/-- **From then on no previously connected client is served.** -/
theorem no_service_after_termination (e : Emu) (id : Nat) : e.requestTermination.serves id = false := by
  unfold Emu.serves Emu.requestTermination
  simp

/-- … and new connections are refused -/
theorem no_new_connections_after_termination (e : Emu) (id : Nat) (a : ConnActivity) :
    e.requestTermination.connect id a = e.requestTermination := by
  unfold Emu.connect Emu.requestTermination
  simp

/-- **The port is released**: once every instance on it has been terminated it can be bound again -/
theorem port_released (es : List Emu) (port : Nat) : portFree (es.map Emu.requestTermination) port = true := by
  unfold portFree
  simp [Emu.requestTermination]

/-- **A successor without a persist path starts empty** -/
theorem successor_starts_empty (port : Nat) (s k : Bool) : (Emu.start port s k).keys = [] ∧ (Emu.start port s k).conns = [] :=
  ⟨rfl, rfl⟩

/-- terminating one instance changes nothing of another instance (they are separate values; the Go
    code's package-global client registry is the recorded finding D52) -/
theorem instances_independent (a b : Emu) : (a.requestTermination, b).2 = b := rfl

/-- before termination a blocked-forever client does not prevent the wait group from being exactly
    the workers started -/
theorem workers_of_start (port : Nat) :
    (Emu.start port true false).workers = [.acceptLoop, .signalMonitor, .saver] ∧
    (Emu.start port false false).workers = [.acceptLoop, .signalMonitor] := by
  constructor <;> rfl

/-! ### termination and connections that are being accepted (D87) -/

def LInv (s : LState) : Prop := s.terminated = true → (s.listening = false ∧ ∀ c ∈ s.table, c.2 = false)

theorem linv_step (s : LState) (e : LEv) (h : LInv s) : LInv (lstep true s e) := by
  cases e with
  | acceptBegin id =>
    simp only [lstep]
    split_ifs with hl
    · intro ht; exact absurd (h ht).1 (by simp [hl])
    · exact h
  | register id =>
    -- a connection registered after the termination is entered closed (`checkLate`, the repair of D87)
    simp only [lstep]
    split_ifs
    · intro ht
      have ht' : s.terminated = true := ht
      exact ⟨(h ht).1, List.forall_mem_append.mpr ⟨(h ht).2, List.forall_mem_singleton.mpr (by simp [ht'])⟩⟩
    · exact h
  | clientCloses id => exact fun ht => ⟨(h ht).1, fun c hc => (h ht).2 c (List.mem_filter.mp hc).1⟩
  | terminate =>
    refine fun _ => ⟨rfl, fun c hc => ?_⟩
    obtain ⟨d, _, rfl⟩ := List.mem_map.mp hc
    rfl

theorem linv_reachable (evs : List LEv) : LInv (lrun true {} evs) :=
  List.foldlRecOn evs (lstep true) (fun h => nomatch h) fun s h e _ => linv_step s e h

/-- **After termination no connection of the instance is open, whenever it was accepted** — for every
    interleaving of accepts, registrations, hang-ups and the termination itself. -/
theorem all_closed_after_termination (evs : List LEv) :
    (lrun true {} evs).terminated = true → ∀ c ∈ (lrun true {} evs).table, c.2 = false :=
  fun ht => (linv_reachable evs ht).2

/-- D87 on the behaviour before the repair: a connection taken off the listener before the termination and
    registered after it stays open -/
theorem late_accept_stays_open_before_repair :
    (lrun false {} [.acceptBegin 7, .terminate, .register 7]).table = [(7, true)] := by decide

theorem late_accept_closed_after_repair :
    (lrun true {} [.acceptBegin 7, .terminate, .register 7]).table = [(7, false)] := by decide

end RedisEmu
