import RedisEmu.Resp
import RedisEmu.Proofs.Codec
import RedisEmu.Proofs.Framing
import Mathlib.Tactic.SplitIfs
/-
  C01 — one well-formed reply per command, framing independent, binary safe.
  Theorems about `RedisEmu.Resp` (parser = `respDeserializer.go`, serializer = `respSerializer.go`,
  tied to the Go code by the `codec` tool through the hook exports and by the `frame` tool over TCP).
-/
namespace RedisEmu

theorem sb_dollarq : sb "$?" = [36, 63] := by decide +kernel
theorem sb_starq : sb "*?" = [42, 63] := by decide +kernel
theorem sb_pctq : sb "%?" = [37, 63] := by decide +kernel
theorem sb_tildeq : sb "~?" = [126, 63] := by decide +kernel
theorem sb_bangq : sb "!?" = [33, 63] := by decide +kernel
theorem sb_t : sb "#t" = [35, 116] := by decide +kernel
theorem sb_f : sb "#f" = [35, 102] := by decide +kernel
theorem sb_dot : sb "." = [46] := by decide +kernel
theorem sb_us : sb "_" = [95] := by decide +kernel
theorem sb_nil : sb "$-1\r\n" = [36, 45, 49, 13, 10] := by decide +kernel
theorem sb_null : sb "_\r\n" = [95, 13, 10] := by decide +kernel
theorem sb_true : sb "#t\r\n" = [35, 116, 13, 10] := by decide +kernel
theorem sb_false : sb "#f\r\n" = [35, 102, 13, 10] := by decide +kernel

attribute [local simp] sb_dollarq sb_starq sb_pctq sb_tildeq sb_bangq sb_t sb_f sb_dot sb_us sb_nil sb_null sb_true
  sb_false natDigits_ne_q serLen_length

def PR.map {α β} (f : α → β) : PR α → PR β
  | .ok a r p => .ok (f a) r p
  | .invalid => .invalid
  | .crash s => .crash s

@[simp] theorem PR.map_ok {α β} (f : α → β) (a : α) (r : Bytes) (p : Nat) : (PR.ok a r p).map f = .ok (f a) r p := rfl

section
variable {n : Nat} (hn : n < 2 ^ 63) (fuel : Nat) (e : Bool) (rest : Bytes) (pos : Nat)
include hn

/-! what the parser does behind a count line `<tag><n>`, tag by tag -/

theorem parseValue_bulkHdr :
    parseValue (fuel + 1) e (serLen 36 n ++ rest) pos = (takeBulk n rest (pos + (serLen 36 n).length)).map .bulk := by
  rw [parseValue, splitLine_hdr 36 (by decide)]
  simp [lineCount_hdr 36 hn, Nat.add_assoc]
  cases takeBulk n rest _ <;> rfl

theorem parseValue_blobErrHdr :
    parseValue (fuel + 1) e (serLen 33 n ++ rest) pos = (takeBulk n rest (pos + (serLen 33 n).length)).map .blobErr := by
  rw [parseValue, splitLine_hdr 33 (by decide)]
  simp [lineCount_hdr 33 hn, Nat.add_assoc]
  cases takeBulk n rest _ <;> rfl

theorem parseValue_arrayHdr :
    parseValue (fuel + 1) e (serLen 42 n ++ rest) pos = (parseN fuel n rest (pos + (serLen 42 n).length) []).map .array := by
  rw [parseValue, splitLine_hdr 42 (by decide)]
  simp [lineCount_hdr 42 hn, makeCrashes, Nat.add_assoc]
  cases parseN fuel n rest _ [] <;> rfl

theorem parseValue_setHdr :
    parseValue (fuel + 1) e (serLen 126 n ++ rest) pos = (parseNSet fuel n rest (pos + (serLen 126 n).length) []).map .set := by
  rw [parseValue, splitLine_hdr 126 (by decide)]
  simp [lineCount_hdr 126 hn, Nat.add_assoc]
  cases parseNSet fuel n rest _ [] <;> rfl

theorem parseValue_mapHdr :
    parseValue (fuel + 1) e (serLen 37 n ++ rest) pos = (parseNMap fuel n rest (pos + (serLen 37 n).length) []).map .map := by
  rw [parseValue, splitLine_hdr 37 (by decide)]
  simp [lineCount_hdr 37 hn, Nat.add_assoc]
  cases parseNMap fuel n rest _ [] <;> rfl

end

/-- `=<n>` and `n` bytes: a verbatim string if the fourth byte is the colon behind the format -/
theorem parseValue_verbatim (b rest : Bytes) (fuel pos : Nat) (e : Bool) (hl : b.length < 2 ^ 63) :
    parseValue (fuel + 1) e (serLen 61 b.length ++ (b ++ 13 :: 10 :: rest)) pos =
      if b.length < 4 || b.getD 3 0 != 58 then .invalid
      else .ok (.verbatim (b.take 3) (b.drop 4)) rest (pos + (serLen 61 b.length).length + b.length + 2) := by
  rw [parseValue, splitLine_hdr 61 (by decide)]
  simp [lineCount_hdr 61 hl, Int.not_ofNat_neg, takeBulk_append, Nat.add_assoc]

/-! ### each kind of value the serializer writes is read back -/

theorem parse_simple (s rest : Bytes) (fuel pos : Nat) :
    parseValue (fuel + 1) false (ser (.simple s) ++ rest) pos =
      .ok (.simple (lineSafe s)) rest (pos + (ser (.simple s)).length) := by
  simp [ser, crlf, parseValue, splitLine_cons 43 (by decide) (lineSafe_no_cr s)]
  omega

theorem parse_error (s rest : Bytes) (fuel pos : Nat) :
    parseValue (fuel + 1) false (ser (.error s) ++ rest) pos =
      .ok (.error (lineSafe s)) rest (pos + (ser (.error s)).length) := by
  simp [ser, crlf, parseValue, splitLine_cons 45 (by decide) (lineSafe_no_cr s)]
  omega

theorem parse_nil (rest : Bytes) (fuel pos : Nat) :
    parseValue (fuel + 1) false (ser .nil ++ rest) pos = .ok .nil rest (pos + (ser Value.nil).length) := by
  have h1 : lineCount [36, 45, 49] = some (-1) := by decide
  simp [ser, parseValue, splitLine, h1]

theorem parse_int (i : Int) (rest : Bytes) (fuel pos : Nat) (h : inRange64 i = true) :
    parseValue (fuel + 1) false (ser (.int i) ++ rest) pos = .ok (.int i) rest (pos + (ser (.int i)).length) := by
  simp [ser, crlf, parseValue, splitLine_cons 58 (by decide) (showInt_no_cr i), lineCount, parseInt64_showInt i h]
  omega

/-- one bulk string, any bytes (CR, LF, NUL, invalid UTF-8 …), followed by anything -/
theorem parse_bulk (b rest : Bytes) (fuel pos : Nat) (hl : b.length < 2 ^ 63) :
    parseValue (fuel + 1) false (ser (.bulk b) ++ rest) pos =
      .ok (.bulk b) rest (pos + (ser (.bulk b)).length) := by
  simp [ser, crlf, parseValue_bulkHdr hl, takeBulk_append, Nat.add_assoc]

theorem parse_null (rest : Bytes) (fuel pos : Nat) :
    parseValue (fuel + 1) false (ser .null ++ rest) pos = .ok .null rest (pos + (ser Value.null).length) := by
  simp [ser, parseValue, splitLine]

theorem parse_bool (b : Bool) (rest : Bytes) (fuel pos : Nat) :
    parseValue (fuel + 1) false (ser (.bool b) ++ rest) pos = .ok (.bool b) rest (pos + (ser (Value.bool b)).length) := by
  cases b <;> simp [ser, parseValue, splitLine]

/-- a big number: any digits text without CR -/
theorem parse_big (t rest : Bytes) (fuel pos : Nat) (ht : ∀ c ∈ t, c ≠ 13) :
    parseValue (fuel + 1) false (ser (.big t) ++ rest) pos = .ok (.big t) rest (pos + (ser (Value.big t)).length) := by
  simp [ser, crlf, parseValue, splitLine_cons 40 (by decide) ht]
  omega

/-- a double: the text the serializer writes is a decimal (or inf / nan) without CR -/
theorem parse_double (t rest : Bytes) (fuel pos : Nat) (ht : ∀ c ∈ t, c ≠ 13)
    (hd : ((parseDecimal t).isSome || isInfNan t) = true) :
    parseValue (fuel + 1) false (ser (.double t) ++ rest) pos = .ok (.double t) rest (pos + (ser (Value.double t)).length) := by
  simp [ser, crlf, parseValue, splitLine_cons 44 (by decide) ht, hd]
  omega

theorem parse_blobErr (b rest : Bytes) (fuel pos : Nat) (hl : b.length < 2 ^ 63) :
    parseValue (fuel + 1) false (ser (.blobErr b) ++ rest) pos =
      .ok (.blobErr b) rest (pos + (ser (.blobErr b)).length) := by
  simp [ser, crlf, parseValue_blobErrHdr hl, takeBulk_append, Nat.add_assoc]

theorem parse_verbatim (f t rest : Bytes) (fuel pos : Nat) (hf : f.length = 3) (hl : f.length + 1 + t.length < 2 ^ 63) :
    parseValue (fuel + 1) false (ser (.verbatim f t) ++ rest) pos =
      .ok (.verbatim f t) rest (pos + (ser (.verbatim f t)).length) := by
  match f, hf with
  | [x, y, z], _ =>
    have hb : [x, y, z].length + 1 + t.length = (x :: y :: z :: 58 :: t).length := by simp; omega
    have := parseValue_verbatim (x :: y :: z :: 58 :: t) rest fuel pos false (hb ▸ hl)
    simpa [ser, crlf, Nat.add_assoc, Nat.add_comm 4, Nat.not_lt.2 (Nat.le_add_left 4 _)] using this

/-! ## the reply side: every RESP2 reply is one well-formed value on the wire, binary-safe -/

mutual
  /-- a RESP2 reply whose numbers fit the wire format (Go `int64` counts and lengths) -/
  def Value.wire : Value → Bool
    | .simple _ | .error _ | .nil => true
    | .int i => inRange64 i
    | .bulk b => decide (b.length < 2 ^ 63)
    | .array xs => decide (xs.length < 2 ^ 63) && Value.allWire xs
    -- the RESP3 scalars: null, booleans, doubles (the text the serializer writes: a decimal, inf or nan),
    -- big numbers, blob errors, verbatim strings (three-letter format)
    | .null | .bool _ => true
    | .double t => t.all (· != 13) && ((parseDecimal t).isSome || isInfNan t)
    | .big t => t.all (· != 13)
    | .blobErr b => decide (b.length < 2 ^ 63)
    | .verbatim f t => decide (f.length = 3) && decide (f.length + 1 + t.length < 2 ^ 63)
    | _ => false
  def Value.allWire : List Value → Bool
    | [] => true
    | x :: xs => x.wire && Value.allWire xs
end

mutual
  /-- what a reader gets back: CR and LF inside a status line were sent as spaces; everything else
      byte for byte -/
  def canon : Value → Value
    | .simple s => .simple (lineSafe s)
    | .error s => .error (lineSafe s)
    | .array xs => .array (canonList xs)
    | v => v
  def canonList : List Value → List Value
    | [] => []
    | x :: xs => canon x :: canonList xs
end

mutual
  /-- recursion fuel the parser needs for a value -/
  def need : Value → Nat
    | .array xs => needList xs + 1
    | _ => 1
  def needList : List Value → Nat
    | [] => 1
    | x :: xs => max (need x + 1) (needList xs + 1)
end

theorem need_pos (v : Value) : 0 < need v := by cases v <;> simp [need]

mutual
  /-- **Reply framing and binary safety (RESP2).** The bytes the serializer writes for a reply are read
      back as exactly one value — that value (status lines with CR / LF replaced by spaces, bulk strings
      byte for byte, whatever they contain), consuming exactly those bytes, whatever follows. -/
  theorem parse_ser : ∀ (v : Value), v.wire = true → ∀ (fuel pos : Nat) (rest : Bytes), need v ≤ fuel →
      parseValue fuel false (ser v ++ rest) pos = .ok (canon v) rest (pos + (ser v).length)
    | .simple s, _, f + 1, pos, rest, _ => parse_simple s rest f pos
    | .error s, _, f + 1, pos, rest, _ => parse_error s rest f pos
    | .nil, _, f + 1, pos, rest, _ => parse_nil rest f pos
    | .int i, hw, f + 1, pos, rest, _ => parse_int i rest f pos hw
    | .bulk b, hw, f + 1, pos, rest, _ => parse_bulk b rest f pos (by simpa [Value.wire] using hw)
    | .array xs, hw, f + 1, pos, rest, hf => by
      -- the count line, then the elements with the fuel that is left
      simp only [Value.wire, Bool.and_eq_true, decide_eq_true_eq] at hw
      simp [ser, canon, parseValue_arrayHdr hw.1, parseN_ser xs hw.2 f _ rest [] (by simpa [need] using hf),
        Nat.add_assoc]
    | .null, _, f + 1, pos, rest, _ => parse_null rest f pos
    | .bool b, _, f + 1, pos, rest, _ => parse_bool b rest f pos
    | .double t, hw, f + 1, pos, rest, _ => by
      simp only [Value.wire, Bool.and_eq_true, List.all_eq_true, bne_iff_ne, ne_eq] at hw
      exact parse_double t rest f pos hw.1 hw.2
    | .big t, hw, f + 1, pos, rest, _ => by
      simp only [Value.wire, List.all_eq_true, bne_iff_ne, ne_eq] at hw
      exact parse_big t rest f pos hw
    | .blobErr b, hw, f + 1, pos, rest, _ => parse_blobErr b rest f pos (by simpa [Value.wire] using hw)
    | .verbatim fm t, hw, f + 1, pos, rest, _ => by
      simp only [Value.wire, Bool.and_eq_true, decide_eq_true_eq] at hw
      exact parse_verbatim fm t rest f pos hw.1 hw.2
    | .map _, hw, _, _, _, _ | .pairs _, hw, _, _, _, _ | .set _, hw, _, _, _, _
    | .attr _, hw, _, _, _, _ | .push _ _, hw, _, _, _, _ | .endMark, hw, _, _, _, _ => by
      simp [Value.wire] at hw
    | v, _, 0, _, _, hf => absurd hf (Nat.not_le.2 (need_pos v))
  theorem parseN_ser : ∀ (xs : List Value), Value.allWire xs = true → ∀ (fuel pos : Nat) (rest : Bytes) (acc : List Value),
      needList xs ≤ fuel →
      parseN fuel xs.length (serList xs ++ rest) pos acc =
        .ok (acc.reverse ++ canonList xs) rest (pos + (serList xs).length)
    | [], _, f + 1, pos, rest, acc, _ => by simp [parseN, serList, canonList]
    | x :: xs, hw, f + 1, pos, rest, acc, hf => by
      simp only [Value.allWire, Bool.and_eq_true] at hw
      simp only [needList] at hf
      simp [serList, parseN, parse_ser x hw.1 f pos _ (by omega), parseN_ser xs hw.2 f _ rest _ (by omega), canonList,
        Nat.add_assoc]
    | xs, _, 0, _, _, _, hf => by cases xs <;> simp [needList] at hf
end

mutual
  theorem need_le_len : ∀ (v : Value), v.wire = true → need v ≤ (ser v).length
    | .array xs, hw => by
      simp only [Value.wire, Bool.and_eq_true] at hw
      have := needList_le_len xs hw.2
      simp only [need, ser, serLen_length, List.length_append]
      omega
    | .simple _, _ | .error _, _ | .int _, _ | .bulk _, _ | .nil, _ | .double _, _ | .big _, _ | .verbatim _ _, _
    | .blobErr _, _ | .null, _ | .bool true, _ | .bool false, _ => by
      simp [need, ser] <;> omega
    | .map _, hw | .pairs _, hw
    | .set _, hw | .attr _, hw | .push _ _, hw | .endMark, hw => by simp [Value.wire] at hw
  theorem needList_le_len : ∀ (xs : List Value), Value.allWire xs = true → needList xs ≤ (serList xs).length + 1
    | [], _ => by simp [needList, serList]
    | x :: xs, hw => by
      simp only [Value.allWire, Bool.and_eq_true] at hw
      have h1 := need_le_len x hw.1
      have h2 := needList_le_len xs hw.2
      have h3 := need_pos x
      simp only [needList, serList, List.length_append]
      omega
end

/-- **Every reply made of RESP2 types and RESP3 scalars is exactly one well-formed value on the wire.**
    (`Value.wire`: status lines, integers, nil, bulk strings, arrays of these to any depth; and null, booleans,
    doubles, big numbers, blob errors and verbatim strings. Sets of bulk strings and maps with bulk-string keys: `set_reply_is_one_value`, `map_reply_is_one_value` below; pushes and attributes are not covered.) Whatever follows it in the stream,
    a reader takes the serialized reply for one complete value — the reply itself, bulk strings byte for
    byte — and finds the next reply right behind it. -/
theorem reply_is_one_value (v : Value) (hw : v.wire = true) (rest : Bytes) :
    parseRes (ser v ++ rest) = .complete (canon v) (ser v).length := by
  have hf : need v ≤ (ser v ++ rest).length + 1 := by
    have := need_le_len v hw
    simp only [List.length_append]; omega
  rw [parseRes, parse, parse_ser v hw _ 0 rest hf, Nat.zero_add]

/-- a pipeline of replies is read back as those replies, in order -/
theorem replies_read_back (vs : List Value) :
    ∀ (fuel pos : Nat) (acc : List Value), Value.allWire vs = true → needList vs ≤ fuel →
      parseN fuel vs.length (serList vs) pos acc = .ok (acc.reverse ++ canonList vs) [] (pos + (serList vs).length) := by
  intro fuel pos acc ha hf
  simpa using parseN_ser vs ha fuel pos [] acc hf

/-! ### every command a client can send is parsed back exactly, whatever bytes its arguments hold -/

theorem allWire_bulks {argv : List Bytes} (hl : ∀ a ∈ argv, a.length < 2 ^ 63) :
    Value.allWire (argv.map .bulk) = true := by
  induction argv with
  | nil => rfl
  | cons a r ih => simp_all [Value.allWire, Value.wire]

theorem canonList_bulks (argv : List Bytes) : canonList (argv.map .bulk) = argv.map .bulk := by
  induction argv with
  | nil => rfl
  | cons a r ih => simp [canonList, canon, ih]

/-- **Request binary safety.** For every argument vector — any number of arguments, every argument an
    arbitrary byte string — the parser reads the encoded command back as exactly those arguments and
    consumes exactly its bytes, whatever follows in the buffer. -/
theorem parse_encodeCmd (argv : List Bytes) (rest : Bytes)
    (hn : argv.length < 2 ^ 63) (hl : ∀ a ∈ argv, a.length < 2 ^ 63) :
    parseRes (encodeCmd argv ++ rest) = .complete (.array (argv.map .bulk)) (encodeCmd argv).length := by
  have := reply_is_one_value (.array (argv.map .bulk)) (by simp [Value.wire, hn, allWire_bulks hl]) rest
  rwa [canon, canonList_bulks] at this

/-! ### framing independence: a command that has not completely arrived is not a command yet -/

theorem parseValue_line_incomplete {l p q : Bytes} (hl : ∀ c ∈ l, c ≠ 13) (hp : p ++ q = l ++ [13, 10]) (hq : q ≠ [])
    (fuel : Nat) (e : Bool) (pos : Nat) : parseValue fuel e p pos = .invalid := by
  have := splitLine_incomplete l hl p q hp hq
  cases fuel <;> simp [parseValue, this]

theorem parse_bulk_incomplete (b : Bytes) (hl : b.length < 2 ^ 63) (p q : Bytes) (fuel pos : Nat)
    (hp : p ++ q = ser (.bulk b)) (hq : q ≠ []) :
    parseValue fuel false p pos = .invalid := by
  rw [ser, List.append_assoc] at hp
  rcases prefix_append_cases hp with ⟨q', hq', h⟩ | ⟨p', rfl, h⟩
  · exact parseValue_line_incomplete (hdr_no_cr 36 (by decide) _) h hq' ..
  · cases fuel with
    | zero => rw [parseValue]
    | succ fuel =>
      have := length_lt_of_append h hq
      rw [parseValue_bulkHdr hl, takeBulk_short (by simpa [crlf] using this)]; rfl

theorem parseN_bulks_incomplete (argv : List Bytes) (hl : ∀ a ∈ argv, a.length < 2 ^ 63) :
    ∀ (fuel pos : Nat) (acc : List Value) (p q : Bytes),
      p ++ q = serList (argv.map .bulk) → q ≠ [] →
      parseN fuel argv.length p pos acc = .invalid := by
  induction argv with
  | nil => intro _ _ _ p q hp hq; simp_all [serList]
  | cons a r ih =>
    have ⟨hla, hlr⟩ := List.forall_mem_cons.mp hl
    intro fuel pos acc p q hp hq
    match fuel with
    | 0 | 1 => simp [parseN, parseValue]
    | fuel + 2 =>
      rw [List.length_cons, parseN]
      -- the cut falls inside the first argument, or behind it: then that one is read and the cut is in the others
      rcases prefix_append_cases hp with ⟨q', hq', h⟩ | ⟨p', rfl, h⟩
      · rw [parse_bulk_incomplete a hla p q' _ pos h hq']
      · simp only [parse_bulk a p' fuel pos hla]
        exact ih hlr _ _ _ p' q h hq

/-- **A command whose bytes have not all arrived is "not there yet"** — for every argument vector and
    every strict prefix of its encoding the parser reports nothing (never a shorter command, never an
    error): the connection keeps the bytes and waits. -/
theorem parse_encodeCmd_incomplete (argv : List Bytes) (p q : Bytes)
    (hn : argv.length < 2 ^ 63) (hl : ∀ a ∈ argv, a.length < 2 ^ 63)
    (hp : p ++ q = encodeCmd argv) (hq : q ≠ []) :
    parseRes p = .invalid := by
  rw [encodeCmd, ser, List.length_map] at hp
  rw [parseRes, parse]
  rcases prefix_append_cases hp with ⟨q', hq', h⟩ | ⟨p', rfl, h⟩
  · rw [parseValue_line_incomplete (hdr_no_cr 42 (by decide) _) h hq']
  · rw [parseValue_arrayHdr hn, parseN_bulks_incomplete argv hl _ _ _ p' q h hq]; rfl

/-! ### the connection's buffer: any segmentation of a pipeline gives the same commands -/

/-- a pipeline of well-formed commands as it travels on the wire -/
def wire (cmds : List (List Bytes)) : Bytes := (cmds.map encodeCmd).flatten

def cmdValue (argv : List Bytes) : Value := .array (argv.map .bulk)

/-- sizes a 64-bit length field can express (the only requirement on a command) -/
def Sendable (cmds : List (List Bytes)) : Prop :=
  ∀ argv ∈ cmds, argv.length < 2 ^ 63 ∧ ∀ a ∈ argv, a.length < 2 ^ 63

theorem wire_cons (c : List Bytes) (cs : List (List Bytes)) : wire (c :: cs) = encodeCmd c ++ wire cs := by
  simp [wire]

theorem encodeCmd_ne_nil (argv : List Bytes) : encodeCmd argv ≠ [] := by
  simp [encodeCmd, ser, serLen]

theorem length_le_wire (cmds : List (List Bytes)) : cmds.length ≤ (wire cmds).length := by
  induction cmds with
  | nil => simp
  | cons c cs ih =>
    have := List.length_pos_iff.mpr (encodeCmd_ne_nil c)
    simp only [wire_cons, List.length_cons, List.length_append]; omega

theorem parseRes_nil : parseRes [] = .invalid := by
  simp [parseRes, parse, parseValue, splitLine]

/-- however the wire is cut in two, the first part is some complete commands and the beginning of the next,
    in which the parser finds no command -/
theorem wire_split (cmds : List (List Bytes)) (hs : Sendable cmds) :
    ∀ (x y : Bytes), x ++ y = wire cmds →
      ∃ done rest p, cmds = done ++ rest ∧ x = wire done ++ p ∧ p ++ y = wire rest ∧ parseRes p = .invalid := by
  induction cmds with
  | nil =>
    intro x y h
    simp only [wire, List.map_nil, List.flatten_nil, List.append_eq_nil_iff] at h
    exact ⟨[], [], [], rfl, by simp [wire, h.1], by simp [wire, h.2], parseRes_nil⟩
  | cons c cs ih =>
    have ⟨hc, hcs⟩ := List.forall_mem_cons.mp hs
    intro x y h
    rw [wire_cons] at h
    rcases prefix_append_cases h with ⟨q, hq, hx⟩ | ⟨x', rfl, hx'⟩
    · exact ⟨[], c :: cs, x, rfl, by simp [wire], by rw [wire_cons, h],
        parse_encodeCmd_incomplete c x q hc.1 hc.2 hx hq⟩
    · obtain ⟨done, rest, p, rfl, rfl, hy, hp⟩ := ih hcs x' y hx'
      exact ⟨c :: done, rest, p, rfl, by simp [wire_cons], hy, hp⟩

/-- draining a buffer that holds complete commands followed by bytes in which the parser finds no command
    hands exactly those commands to the dispatcher, in order, and keeps the rest -/
theorem drain_wire (done : List (List Bytes)) :
    ∀ (p : Bytes) (s : ConnState) (fuel : Nat),
      Sendable done → parseRes p = .invalid → s.dead = false →
      s.inbound = wire done ++ p → done.length + 1 ≤ fuel →
      drain fuel s = { inbound := p, emitted := s.emitted ++ done.map cmdValue, dead := false } := by
  induction done with
  | nil =>
    intro p s fuel _ hp hdead hin hf
    obtain ⟨fuel, rfl⟩ := Nat.exists_eq_add_of_lt hf
    cases s; simp_all [drain, wire]
  | cons c cs ih =>
    intro p s fuel hsd hp hdead hin hf
    obtain ⟨fuel, rfl⟩ := Nat.exists_eq_add_of_lt hf
    have ⟨hc, hcs⟩ := List.forall_mem_cons.mp hsd
    rw [wire_cons, List.append_assoc] at hin
    have hne : (encodeCmd c).length ≠ 0 := by simpa using encodeCmd_ne_nil c
    rw [drain]
    simp only [hdead, hin, parse_encodeCmd c _ hc.1 hc.2, hne, Bool.false_eq_true, ↓reduceIte, beq_iff_eq,
      List.drop_left']
    rw [ih p _ _ hcs hp rfl rfl (by simp)]
    simp [cmdValue]

/-- the state of a connection after some of the wire has arrived, however it was segmented: the
    commands completely received have been handed over, the beginning of the next one is kept -/
theorem feed_invariant (chunks : List Bytes) :
    ∀ (s : ConnState) (rest : List (List Bytes)),
      Sendable rest → s.dead = false → parseRes s.inbound = .invalid →
      s.inbound ++ chunks.flatten = wire rest →
      chunks.foldl feed s = { inbound := [], emitted := s.emitted ++ rest.map cmdValue, dead := false } := by
  induction chunks with
  | nil =>
    intro s rest hs hdead hp hw
    -- nothing more will arrive, and the buffer holds no command: the wire is empty
    cases rest with
    | nil => cases s; simp_all [wire]
    | cons c cs =>
      have hc := hs c List.mem_cons_self
      rw [List.flatten_nil, List.append_nil] at hw
      rw [hw, wire_cons, parse_encodeCmd c _ hc.1 hc.2] at hp
      cases hp
  | cons c cs ih =>
    intro s rest hs hdead _ hw
    rw [List.flatten_cons, ← List.append_assoc] at hw
    obtain ⟨done, rest, p, rfl, hx, hy, hp⟩ := wire_split rest hs _ _ hw
    have ⟨hsd, hsr⟩ := List.forall_mem_append.mp hs
    have hfeed : feed s c = { inbound := p, emitted := s.emitted ++ done.map cmdValue, dead := false } :=
      drain_wire done p { s with inbound := s.inbound ++ c } _ hsd hp hdead hx (by
        have := length_le_wire done
        simp only [hx, List.length_append]; omega)
    rw [List.foldl_cons, hfeed, ih _ rest hsr rfl hp hy]
    simp

/-- **Framing independence.** For every pipeline of well-formed commands and every way of cutting its
    bytes into TCP segments (any number of segments, cuts anywhere: inside a length, between CR and LF,
    inside an argument), the connection hands exactly the commands of the pipeline to the dispatcher,
    in order, each once, and its buffer is empty afterwards. -/
theorem framing_independent (cmds : List (List Bytes)) (chunks : List Bytes)
    (hs : Sendable cmds) (hc : chunks.flatten = wire cmds) :
    chunks.foldl feed {} = { inbound := [], emitted := cmds.map cmdValue, dead := false } := by
  simpa using feed_invariant chunks {} cmds hs rfl parseRes_nil hc

/-- … hence two segmentations of the same bytes cannot be told apart by anything that follows -/
theorem segmentation_irrelevant (cmds : List (List Bytes)) (chunks1 chunks2 : List Bytes)
    (hs : Sendable cmds) (h1 : chunks1.flatten = wire cmds) (h2 : chunks2.flatten = wire cmds) :
    chunks1.foldl feed {} = chunks2.foldl feed {} := by
  rw [framing_independent cmds chunks1 hs h1, framing_independent cmds chunks2 hs h2]

/-- non-vacuity: `SET k "\r\n"` and `GET k`, cut inside the CR LF of a length line and inside the
    binary value, arrive as the two commands -/
example :
    let cmds : List (List Bytes) := [[[83, 69, 84], [107], [13, 10]], [[71, 69, 84], [107]]]
    let w := wire cmds
    ([w.take 3, (w.drop 3).take 22, w.drop 25].foldl feed {}).emitted = cmds.map cmdValue := by
  intro cmds w
  have hs : Sendable cmds := by simp [Sendable, cmds]
  have hc : [w.take 3, (w.drop 3).take 22, w.drop 25].flatten = wire cmds := by
    simp only [List.flatten_cons, List.flatten_nil, List.append_nil]
    have : List.drop 25 w = List.drop 22 (List.drop 3 w) := by simp [List.drop_drop]
    rw [this, List.take_append_drop, List.take_append_drop]
  rw [framing_independent cmds _ hs hc]

/-! ### RESP3 aggregates a server sends: sets of bulk strings, maps with bulk-string keys -/

theorem normKey_bulk (b : Bytes) : normKey (.bulk b) = .bulk b := rfl

theorem parseNSet_bulks : ∀ (bs : List Bytes), (∀ b ∈ bs, b.length < 2 ^ 63) →
    ∀ (fuel pos : Nat) (rest : Bytes) (acc : List Value), bs.length + 1 ≤ fuel →
    parseNSet fuel bs.length (serList (bs.map .bulk) ++ rest) pos acc =
      .ok (bs.foldl (fun a b => insertSet (.bulk b) a) acc) rest (pos + (serList (bs.map .bulk)).length) := by
  intro bs
  induction bs with
  | nil =>
    intro _ fuel pos rest acc hf
    obtain ⟨f, rfl⟩ := Nat.exists_eq_add_of_lt hf
    simp [parseNSet, serList]
  | cons b bs ih =>
    intro hl fuel pos rest acc hf
    have ⟨hb, hbs⟩ := List.forall_mem_cons.mp hl
    obtain ⟨f, rfl⟩ : ∃ f, fuel = f + 2 := ⟨fuel - 2, by simp at hf; omega⟩
    simp only [List.map_cons, serList, List.length_cons, List.append_assoc]
    rw [parseNSet, parse_bulk b _ f pos hb]
    simp [normKey_bulk, Value.unhashable, ih hbs (f + 1) _ rest _ (by simp at hf ⊢; omega), Nat.add_assoc]

theorem bulk_beq (a b : Bytes) : ((Value.bulk a) == (Value.bulk b)) = (a == b) := by
  show Value.beq _ _ = _
  simp [Value.beq]

/-- distinct members go in one after the other, in order -/
theorem foldl_insertSet_nodup : ∀ (bs acc : List Bytes), (acc ++ bs).Nodup →
    bs.foldl (fun a b => insertSet (.bulk b) a) (acc.map .bulk) = (acc ++ bs).map .bulk := by
  intro bs
  induction bs with
  | nil => intro acc _; simp
  | cons b bs ih =>
    intro acc hn
    have hnot : b ∉ acc := fun hb => (List.nodup_append.mp hn).2.2 b hb b List.mem_cons_self rfl
    have hins : insertSet (.bulk b) (acc.map .bulk) = (acc ++ [b]).map .bulk := by
      simpa [insertSet, bulk_beq] using hnot
    rw [List.foldl_cons, hins, ih (acc ++ [b]) (by simpa using hn)]
    simp

/-- **RESP3 set replies** (what SMEMBERS, SUNION … send after HELLO 3): a set of distinct bulk strings, serialized,
    is read back as exactly that set, members in the order sent, for every number and size of members. -/
theorem parse_set_of_bulks (bs : List Bytes) (hn : bs.Nodup) (hc : bs.length < 2 ^ 63) (hl : ∀ b ∈ bs, b.length < 2 ^ 63)
    (rest : Bytes) (fuel pos : Nat) (hf : bs.length + 2 ≤ fuel) :
    parseValue fuel false (ser (.set (bs.map .bulk)) ++ rest) pos =
      .ok (.set (bs.map .bulk)) rest (pos + (ser (.set (bs.map .bulk))).length) := by
  obtain ⟨f, rfl⟩ : ∃ f, fuel = f + 1 := ⟨fuel - 1, by omega⟩
  have hfold : bs.foldl (fun a b => insertSet (.bulk b) a) [] = bs.map .bulk := by
    simpa using foldl_insertSet_nodup bs [] (by simpa using hn)
  simp [ser, parseValue_setHdr hc, parseNSet_bulks bs hl f _ rest [] (by omega), hfold, Nat.add_assoc]

theorem ser_bulk_len_pos (b : Bytes) : 1 ≤ (ser (.bulk b)).length := by simp [ser, serLen, crlf]

theorem serList_bulks_len (bs : List Bytes) : bs.length ≤ (serList (bs.map .bulk)).length := by
  induction bs with
  | nil => simp
  | cons b r ih =>
    have := ser_bulk_len_pos b
    simp only [List.map_cons, serList, List.length_cons, List.length_append]; omega

/-- … as a reply on the wire: one complete value, whatever follows -/
theorem set_reply_is_one_value (bs : List Bytes) (hn : bs.Nodup) (hc : bs.length < 2 ^ 63) (hl : ∀ b ∈ bs, b.length < 2 ^ 63)
    (rest : Bytes) :
    parseRes (ser (.set (bs.map .bulk)) ++ rest) = .complete (.set (bs.map .bulk)) (ser (.set (bs.map .bulk))).length := by
  have hlen : bs.length + 2 ≤ (ser (.set (bs.map .bulk)) ++ rest).length + 1 := by
    have := serList_bulks_len bs
    simp only [ser, serLen, crlf, List.length_append, List.length_cons, List.length_map]; omega
  rw [parseRes, parse, parse_set_of_bulks bs hn hc hl rest _ 0 hlen, Nat.zero_add]

/-- the entries of a map reply: bulk-string keys, any `wire` value -/
def mapEntries (kvs : List (Bytes × Value)) : List (Value × Value) := kvs.map fun kv => (.bulk kv.1, kv.2)
def canonEntries (kvs : List (Bytes × Value)) : List (Value × Value) := kvs.map fun kv => (.bulk kv.1, canon kv.2)

/-- a new key goes to the end -/
theorem insertMap_new : ∀ (acc : List (Bytes × Value)) (k : Bytes) (v : Value), (∀ kv ∈ acc, kv.1 ≠ k) →
    insertMap (.bulk k) v (mapEntries acc) = mapEntries (acc ++ [(k, v)]) := by
  intro acc
  induction acc with
  | nil => intro k v _; simp [insertMap, mapEntries]
  | cons a r ih =>
    intro k v h
    have ⟨h1, hr⟩ := List.forall_mem_cons.mp h
    have := ih k v hr
    simp_all [mapEntries, insertMap, bulk_beq]

theorem canonEntries_eq (l : List (Bytes × Value)) :
    canonEntries l = mapEntries (l.map fun kv => (kv.1, canon kv.2)) := by
  simp [canonEntries, mapEntries]

theorem parseNMap_entries : ∀ (kvs : List (Bytes × Value)),
    (∀ kv ∈ kvs, kv.1.length < 2 ^ 63 ∧ kv.2.wire = true) →
    ∀ (fuel pos : Nat) (rest : Bytes) (acc : List (Bytes × Value)),
    (acc.map (·.1) ++ kvs.map (·.1)).Nodup →
    kvs.length + 2 ≤ fuel → (∀ kv ∈ kvs, need kv.2 + kvs.length + 1 ≤ fuel) →
    parseNMap fuel kvs.length (serPairs (mapEntries kvs) ++ rest) pos (canonEntries acc) =
      .ok (canonEntries (acc ++ kvs)) rest (pos + (serPairs (mapEntries kvs)).length) := by
  intro kvs
  induction kvs with
  | nil =>
    intro _ fuel pos rest acc _ hf _
    obtain ⟨f, rfl⟩ : ∃ f, fuel = f + 1 := ⟨fuel - 1, by simp at hf; omega⟩
    simp [parseNMap, serPairs, mapEntries]
  | cons kv kvs ih =>
    intro hw fuel pos rest acc hn hf hneed
    obtain ⟨k, v⟩ := kv
    obtain ⟨g, rfl⟩ : ∃ g, fuel = g + 2 := ⟨fuel - 2, by simp at hf; omega⟩
    have ⟨hkv, hw'⟩ := List.forall_mem_cons.mp hw
    have ⟨hnv, hneed'⟩ := List.forall_mem_cons.mp hneed
    simp only [List.length_cons] at hnv hneed' hf
    -- the key is none of those read so far, so `insertMap` puts the entry at the end
    have hfresh : ∀ e ∈ acc.map fun kv => (kv.1, canon kv.2), e.1 ≠ k := by
      intro e he hek
      obtain ⟨e', he', rfl⟩ := List.mem_map.mp he
      exact (List.nodup_append.mp hn).2.2 e'.1 (List.mem_map_of_mem he') k (by simp) hek
    have hins : insertMap (.bulk k) (canon v) (canonEntries acc) = canonEntries (acc ++ [(k, v)]) := by
      rw [canonEntries_eq, canonEntries_eq, insertMap_new _ k (canon v) hfresh]; simp
    simp only [mapEntries, List.map_cons, serPairs, List.length_cons, List.append_assoc]
    rw [parseNMap, parse_bulk k _ g pos hkv.1]
    simp only [normKey_bulk, parse_ser v hkv.2 (g + 1) _ _ (by omega), Value.unhashable, Bool.false_eq_true,
      ↓reduceIte, hins]
    rw [← mapEntries, ih hw' (g + 1) _ rest (acc ++ [(k, v)]) (by simpa using hn) (by omega)
      (fun e he => by have := hneed' e he; omega)]
    simp [Nat.add_assoc]

/-- **RESP3 map replies** (what HGETALL, CONFIG GET, HELLO … send after HELLO 3): a map with distinct bulk-string keys
    and values of any `wire` kind, serialized, is read back as exactly that map — entries in the order sent, the
    values as `canon` has them — for every number of entries and every nesting of the values. -/
theorem parse_map_of_bulk_keys (kvs : List (Bytes × Value)) (hn : (kvs.map (·.1)).Nodup) (hc : kvs.length < 2 ^ 63)
    (hw : ∀ kv ∈ kvs, kv.1.length < 2 ^ 63 ∧ kv.2.wire = true)
    (rest : Bytes) (fuel pos : Nat) (hf : kvs.length + 3 ≤ fuel) (hneed : ∀ kv ∈ kvs, need kv.2 + kvs.length + 2 ≤ fuel) :
    parseValue fuel false (ser (.map (mapEntries kvs)) ++ rest) pos =
      .ok (.map (canonEntries kvs)) rest (pos + (ser (.map (mapEntries kvs))).length) := by
  obtain ⟨f, rfl⟩ : ∃ f, fuel = f + 1 := ⟨fuel - 1, by omega⟩
  have := parseNMap_entries kvs hw f (pos + (serLen 37 kvs.length).length) rest [] (by simpa using hn) (by omega)
    (fun e he => by have := hneed e he; omega)
  have hlen : (mapEntries kvs).length = kvs.length := by simp [mapEntries]
  rw [show canonEntries [] = [] from rfl, List.nil_append] at this
  rw [ser, hlen, List.append_assoc, parseValue_mapHdr hc, this]
  simp [Nat.add_assoc]

theorem serPairs_entries_len : ∀ (kvs : List (Bytes × Value)),
    kvs.length ≤ (serPairs (mapEntries kvs)).length ∧
    ∀ kv ∈ kvs, (ser kv.2).length + kvs.length ≤ (serPairs (mapEntries kvs)).length := by
  intro kvs
  induction kvs with
  | nil => simp [mapEntries, serPairs]
  | cons e r ih =>
    have hk := ser_bulk_len_pos e.1
    simp only [mapEntries, List.map_cons, serPairs, List.length_append, List.length_cons, List.forall_mem_cons]
    rw [← mapEntries]
    exact ⟨by omega, by omega, fun kv h => by have := ih.2 kv h; omega⟩

theorem map_reply_is_one_value (kvs : List (Bytes × Value)) (hn : (kvs.map (·.1)).Nodup) (hc : kvs.length < 2 ^ 63)
    (hw : ∀ kv ∈ kvs, kv.1.length < 2 ^ 63 ∧ kv.2.wire = true) (rest : Bytes) :
    parseRes (ser (.map (mapEntries kvs)) ++ rest) =
      .complete (.map (canonEntries kvs)) (ser (.map (mapEntries kvs))).length := by
  have hl := serPairs_entries_len kvs
  have hlen : (ser (.map (mapEntries kvs))).length = (natDigits kvs.length).length + 3 + (serPairs (mapEntries kvs)).length := by
    simp [ser, mapEntries, serLen_length]
  rw [parseRes, parse, parse_map_of_bulk_keys kvs hn hc hw rest _ 0 (by simp only [List.length_append]; omega)
    (fun kv hkv => by
      have := need_le_len kv.2 (hw kv hkv).2
      have := hl.2 kv hkv
      simp only [List.length_append]; omega), Nat.zero_add]

/-- non-vacuity: the hypotheses are met by `~2 a b` and by `%2 a→1 b→[x]` -/
theorem set_map_examples (rest : Bytes) :
    parseRes (ser (.set ([[97], [98]].map .bulk)) ++ rest) =
      .complete (.set ([[97], [98]].map .bulk)) (ser (.set ([[97], [98]].map .bulk))).length ∧
    parseRes (ser (.map (mapEntries [([97], .int 1), ([98], .array [.bulk [120]])])) ++ rest) =
      .complete (.map (canonEntries [([97], .int 1), ([98], .array [.bulk [120]])]))
        (ser (.map (mapEntries [([97], .int 1), ([98], .array [.bulk [120]])]))).length :=
  ⟨set_reply_is_one_value [[97], [98]] (by decide) (by decide) (by decide) rest,
   map_reply_is_one_value [([97], .int 1), ([98], .array [.bulk [120]])] (by decide) (by decide)
     (by simp [Value.wire, Value.allWire, inRange64, twoP63]) rest⟩

end RedisEmu
