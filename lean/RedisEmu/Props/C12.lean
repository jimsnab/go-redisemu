import RedisEmu.Block
import RedisEmu.CaptureLock
import Mathlib.Tactic.SplitIfs
/-
  C12 — how blocking ends (partial). A small model of one blocked command's `select` over its three
  sources (wake-up token, timer, unblock mailbox) with explicit time, plus the capture state machine
  of `clientState.go`. Go timer accuracy and scheduling latency are not modelled; the `block` tool
  measures them and drives the schedule points.
-/
namespace RedisEmu

/-- capture state of a connection (`CS_UNCAPTURED`, `CS_CAPTURED`, …), its one-slot mailbox, and — since
    the repair of D31 — the mark of a blocking command that is under way but has not captured yet, with
    the request that arrived in that window -/
structure Capture where
  captured : Bool := false
  mailbox : Option (Option String) := none     -- pending unblock request: some none = TIMEOUT, some (some e) = ERROR e
  aboutToBlock : Bool := false                 -- `beginBlockingCommand` … `endBlockingCommand`
  early : Option (Option String) := none       -- request that arrived between the two (`earlyUnblock`)
  deriving Repr, DecidableEq

/-- `beginBlockingCommand` -/
def Capture.begin (c : Capture) : Capture := { c with aboutToBlock := true, early := none }

/-- `clientState.unblock`: a request is posted to a captured client, at most one per capture; on a client
    whose blocking command has not captured yet it is kept for the capture (`sticky` = the repaired
    behaviour; without it the request is dropped: D31) -/
def Capture.unblockQ (sticky : Bool) (c : Capture) (err : Option String) : Capture × Bool :=
  if c.captured then
    (if c.mailbox.isNone then { c with mailbox := some err } else c, true)
  else if sticky && c.aboutToBlock then
    (if c.early.isNone then { c with early := some err } else c, true)
  else (c, false)

def Capture.unblock (c : Capture) (err : Option String) : Capture × Bool := c.unblockQ true err

/-- `capture()` followed by the look at `takeEarlyUnblock`: a request that arrived early is found now -/
def Capture.capture (c : Capture) : Capture :=
  { c with captured := true, mailbox := (if c.mailbox.isNone then c.early else c.mailbox), early := none }

/-- `releaseCapture` drains the mailbox; the command may capture again (it is still under way) -/
def Capture.release (c : Capture) : Capture := { aboutToBlock := c.aboutToBlock }

/-- `endBlockingCommand` -/
def Capture.finish (_c : Capture) : Capture := {}

inductive EndReason where
  | data            -- a wake-up token arrived
  | timeout         -- the timer fired
  | unblocked (err : Option String)
  deriving Repr, DecidableEq

/-- which sources of the `select` are ready at time `now` for a command that started waiting with
    deadline `deadline` (`none` = timeout 0, wait forever) -/
def readySources (now : Int) (deadline : Option Int) (token : Bool) (c : Capture) : List EndReason :=
  (if token then [.data] else []) ++
  (match deadline with | some d => if now ≥ d then [.timeout] else [] | none => []) ++
  (match c.mailbox with | some e => [.unblocked e] | none => [])

/-- a timeout can only be the reason of the end at or after the deadline: never early -/
theorem timeout_not_early (now : Int) (deadline : Option Int) (token : Bool) (c : Capture)
    (h : EndReason.timeout ∈ readySources now deadline token c) : ∃ d, deadline = some d ∧ now ≥ d := by
  simp only [readySources, List.mem_append] at h
  rcases h with (h | h) | h
  · cases token <;> simp at h
  · cases deadline with
    | none => cases h
    | some d =>
      simp only at h
      split_ifs at h with hd
      · exact ⟨d, rfl, hd⟩
      · cases h
  · cases hm : c.mailbox <;> simp [hm] at h

/-- timeout 0 (no deadline) never ends by timeout -/
theorem timeout0_never_times_out (now : Int) (token : Bool) (c : Capture) :
    EndReason.timeout ∉ readySources now none token c := by
  intro h
  obtain ⟨d, hd, _⟩ := timeout_not_early now none token c h
  cases hd

/-- with nothing pending and the deadline not reached the command keeps waiting -/
theorem keeps_waiting (now d : Int) (h : now < d) : readySources now (some d) false {} = [] := by
  unfold readySources
  have : ¬ (now ≥ d) := by omega
  simp [this]

/-- CLIENT UNBLOCK reaches a captured client exactly once per capture and reports that it did;
    on a client that is not captured it changes nothing and reports so (the repaired reply of D30) -/
theorem unblock_captured (c : Capture) (err : Option String) (h : c.captured = true) (hm : c.mailbox = none) :
    (c.unblock err).1.mailbox = some err ∧ (c.unblock err).2 = true := by
  simp [Capture.unblock, Capture.unblockQ, h, hm]

theorem unblock_uncaptured_inert (c : Capture) (err : Option String) (h : c.captured = false)
    (hb : c.aboutToBlock = false) : (c.unblock err).1 = c ∧ (c.unblock err).2 = false := by
  simp [Capture.unblock, Capture.unblockQ, h, hb]

/-- a second request during the same capture does not overwrite the first -/
theorem unblock_once (c : Capture) (e1 e2 : Option String) (h : c.captured = true) (hm : c.mailbox = none) :
    ((c.unblock e1).1.unblock e2).1.mailbox = some e1 := by
  simp [Capture.unblock, Capture.unblockQ, h, hm]

theorem unblock_before_capture (c : Capture) (err : Option String) (hc : c.captured = false)
    (hb : c.aboutToBlock = true) (he : c.early = none) (hm : c.mailbox = none) :
    ((c.unblock err).1.capture).mailbox = some err ∧ (c.unblock err).2 = true := by
  simp [Capture.unblock, Capture.unblockQ, Capture.capture, hc, hb, he, hm]

/-- **A request that arrives before the capture is not lost** (repaired, D31): between the start of a
    blocking command and its capture — in whatever state the client was before, and however many times
    the command captured and released already — the request is reported as delivered and is in the
    (until then empty: `release_clears`) mailbox as soon as the command captures: the `select` ends at once with that reason. -/
theorem early_unblock_reaches (c : Capture) (err : Option String) (hc : c.captured = false)
    (hm : c.mailbox = none) :
    ((c.begin.unblock err).1.capture).mailbox = some err ∧ (c.begin.unblock err).2 = true ∧
    EndReason.unblocked err ∈ readySources 0 none false ((c.begin.unblock err).1.capture) := by
  have ⟨h1, h2⟩ := unblock_before_capture c.begin err hc rfl rfl hm
  exact ⟨h1, h2, by simp [readySources, h1]⟩

/-- … also between two captures of the same command (a wake-up that found nothing, then the retry) -/
theorem unblock_between_captures_reaches (c : Capture) (err : Option String) :
    (((c.begin.capture.release).unblock err).1.capture).mailbox = some err :=
  (unblock_before_capture _ err rfl rfl rfl rfl).1

/-- a request kept for a command that then ends without capturing (data arrived first) does not leak
    into the connection's next blocking command -/
theorem early_unblock_does_not_leak (c : Capture) (err : Option String) :
    ((c.begin.unblock err).1.finish.begin.capture).mailbox = none := by
  simp [Capture.begin, Capture.finish, Capture.capture]

/-- D31 on the model of the unrepaired code: the request is dropped — the client, once captured, has an
    empty mailbox and keeps waiting -/
theorem early_unblock_lost_before_repair :
    (((({} : Capture).begin.unblockQ false none).1).capture).mailbox = none := by decide

/-- after any end the capture is released with an empty mailbox: a stale request cannot end the
    connection's next block -/
theorem release_clears (c : Capture) : c.release.mailbox = none ∧ c.release.captured = false ∧ c.release.early = none := ⟨rfl, rfl, rfl⟩

/-- the unblock of one client does not touch another client's capture state (they are separate
    values): ending client A's block leaves client B blocked -/
theorem unblock_is_per_client (a b : Capture) (err : Option String) :
    ((a.unblock err).1, b).2 = b := rfl

/-! ### the capture word under concurrent checks (D76)

`unblock()` (CLIENT UNBLOCK, CLIENT KILL, Close) and `isBlocked()` (CLIENT LIST) run on other goroutines
than the connection that owns the word. -/

/-- a checker that is inside its check and displaced a real state (not another checker's marker) -/
def Holder (s : CLState) (i : Nat) : Prop := ∃ v, s.saved i = some v ∧ v ≠ CS.checking

/-- the word reads CS_CHECKING exactly while some checker holds the real state, and at most one does -/
structure CLInv (s : CLState) : Prop where
  unique : ∀ i j, Holder s i → Holder s j → i = j
  marker : s.word = CS.checking ↔ ∃ i, Holder s i

theorem holder_setSaved (s : CLState) (w : CS) (i j : Nat) (v : Option CS) :
    Holder { word := w, saved := setSaved s.saved i v } j ↔
      if j = i then ∃ x, v = some x ∧ x ≠ CS.checking else Holder s j := by
  unfold Holder setSaved; split <;> simp only [*, ↓reduceIte]

theorem holder_setSaved_marker (s : CLState) (w : CS) (i j : Nat) (v : Option CS) (hni : ¬ Holder s i)
    (hv : ∀ x, v = some x → x = CS.checking) : Holder { word := w, saved := setSaved s.saved i v } j ↔ Holder s j := by
  rw [holder_setSaved]; split
  · subst j; exact iff_of_false (fun ⟨x, hx, hxc⟩ => hxc (hv x hx)) hni
  · rfl

theorem CLInv.congr {s s' : CLState} (h : CLInv s) (hH : ∀ j, Holder s' j ↔ Holder s j)
    (hw : s'.word = CS.checking ↔ s.word = CS.checking) : CLInv s' :=
  ⟨fun i j hi hj => h.unique i j ((hH i).mp hi) ((hH j).mp hj),
   hw.trans (h.marker.trans (exists_congr fun j => (hH j).symm))⟩

theorem CLInv.free {s : CLState} (hn : ∀ j, ¬ Holder s j) (hw : s.word ≠ CS.checking) : CLInv s :=
  ⟨fun i _ hi => (hn i hi).elim, fun e => (hw e).elim, fun ⟨j, hj⟩ => (hn j hj).elim⟩

theorem CLInv.held {s : CLState} (i : Nat) (hH : ∀ j, Holder s j ↔ j = i) (hw : s.word = CS.checking) : CLInv s :=
  ⟨fun a b ha hb => ((hH a).mp ha).trans ((hH b).mp hb).symm, fun _ => ⟨i, (hH i).mpr rfl⟩, fun _ => hw⟩

theorem clstep_swapIn_none (r : Bool) (s : CLState) (i : Nat) (h : s.saved i = none) :
    clstep r s (.swapIn i) = { word := .checking, saved := setSaved s.saved i (some s.word) } := by
  simp [clstep, h]

theorem clstep_swapIn_some (r : Bool) (s : CLState) (i : Nat) (v : CS) (h : s.saved i = some v) :
    clstep r s (.swapIn i) = s := by
  simp [clstep, h]

theorem clstep_putBack_none (r : Bool) (s : CLState) (i : Nat) (h : s.saved i = none) :
    clstep r s (.putBack i) = s := by
  simp [clstep, h]

theorem clstep_putBack_some (r : Bool) (s : CLState) (i : Nat) (v : CS) (h : s.saved i = some v) :
    clstep r s (.putBack i) =
      { word := if r && v == .checking then s.word else v, saved := setSaved s.saved i none } := by
  simp [clstep, h]

theorem clinv_step (s : CLState) (st : CLStep) (h : CLInv s) : CLInv (clstep true s st) := by
  cases st with
  | swapIn i =>
    cases hs : s.saved i with
    | some v => rw [clstep_swapIn_some true s i v hs]; exact h
    | none =>
      rw [clstep_swapIn_none true s i hs]
      by_cases hw : s.word = CS.checking
      · -- i displaced another checker's marker: it holds nothing
        have hni : ¬ Holder s i := fun ⟨v, hv, _⟩ => by rw [hs] at hv; cases hv
        exact h.congr (fun j => holder_setSaved_marker s _ i j _ hni (by simp [hw])) (by simp [hw])
      · -- the word was real, so nobody held it: now i does
        refine .held i (fun j => ?_) rfl
        have hnj : ¬ Holder s j := fun hj => hw (h.marker.mpr ⟨j, hj⟩)
        rw [holder_setSaved]; split <;> simp [*]
  | putBack i =>
    cases hs : s.saved i with
    | none => rw [clstep_putBack_none true s i hs]; exact h
    | some v =>
      rw [clstep_putBack_some true s i v hs]
      by_cases hv : v = CS.checking
      · -- i only displaced a marker: the word stays, the holders stay
        have hni : ¬ Holder s i := fun ⟨x, hx, hxc⟩ => by rw [hs] at hx; cases hx; exact hxc hv
        exact h.congr (fun j => holder_setSaved_marker s _ i j none hni nofun) (by simp [hv])
      · -- i is the holder, the only one: it puts the real state back and nobody holds any more
        refine .free (fun j hj => ?_) (by simp [hv])
        rw [holder_setSaved] at hj; split at hj
        · obtain ⟨x, hx, _⟩ := hj; cases hx
        · exact ‹j ≠ i› (h.unique j i hj ⟨v, hs, hv⟩)
  | cas old new =>
    simp only [clstep]
    split_ifs with hc hw
    · exact h
    · -- the owner moves between real states
      have := hw ▸ (not_or.mp hc).1
      exact h.congr (fun j => Iff.rfl) (by simp [this, (not_or.mp hc).2])
    · exact h

theorem clinv_reachable (steps : List CLStep) : CLInv (clrun true {} steps) :=
  List.foldlRecOn steps (clstep true) (.free (fun _ ⟨_, hv, _⟩ => nomatch hv) nofun) fun s h st _ => clinv_step s st h

/-- **The capture word never gets stuck.** Whatever CLIENT UNBLOCK / KILL / LIST / Close and the owning
    connection did, in whatever interleaving: once no check is in progress the word is not CS_CHECKING,
    so `capture()`, `unblock()` and `isBlocked()` (which spin while they read CS_CHECKING) can proceed. -/
theorem capture_word_never_stuck (steps : List CLStep)
    (quiet : ∀ i, (clrun true {} steps).saved i = none) :
    (clrun true {} steps).word ≠ CS.checking := by
  intro hw
  rcases (clinv_reachable steps).marker.mp hw with ⟨i, v, hv, _⟩
  rw [quiet i] at hv; cases hv

/-- D76 on the code before the repair: two overlapping checks (A swaps in, B swaps in and displaces A's
    marker, A puts the real state back, B puts the marker back) leave CS_CHECKING behind with no check in
    progress — every later `capture`, `unblock` and `isBlocked` on that connection spins forever. -/
theorem capture_word_stuck_before_repair :
    let s := clrun false {} [.swapIn 0, .swapIn 1, .putBack 0, .putBack 1]
    s.word = CS.checking ∧ s.saved 0 = none ∧ s.saved 1 = none := by
  decide

/-- the same schedule on the repaired code ends in the real state -/
example :
    let s := clrun true {} [.cas .uncaptured .captured, .swapIn 0, .swapIn 1, .putBack 0, .putBack 1]
    s.word = CS.captured ∧ s.saved 0 = none ∧ s.saved 1 = none := by
  decide

end RedisEmu
