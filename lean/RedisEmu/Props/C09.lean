import RedisEmu.Props.C06
import RedisEmu.Props.C07
import Mathlib.Tactic.SplitIfs
/-
  C09 — MULTI / EXEC / DISCARD (family `tx` of the correspondence run).
-/
namespace RedisEmu

/-- Between MULTI and EXEC a non-control command is only queued: the reply is QUEUED, no database
    changes, the database table does not change, no other connection's session changes, and the
    queue grows by exactly this command bound to the currently selected database. -/
theorem queued_no_effect (c : Ctx) (s : State) (conn : Nat) (argv : List Bytes) (q : List Queued) (cmd : Cmd)
    (hq : (s.session conn).queue = some q) (hc : cmd.isControl = false) :
    let o := dispatchParsed c s conn argv cmd
    o.reply = .simple (sb "QUEUED") ∧ o.st.heap = s.heap ∧ o.st.table = s.table ∧
    (o.st.session conn).queue = some (q ++ [{ argv := argv, dbRef := (s.session conn).dbRef }]) ∧
    (∀ c', (conn == c') = false → o.st.session c' = s.session c') ∧
    o.pushed = [] ∧ o.crash = none := by
  simp only [dispatchParsed, hq, hc, Bool.not_false, ↓reduceIte]
  refine ⟨by simp, by simp, by simp, by simp, ?_, by simp, by simp⟩
  intro c' h; exact session_setSession_ne _ _ _ _ h

/-- EXEC without MULTI, DISCARD without MULTI: an error, and nothing at all changes -/
theorem exec_discard_without_multi (c : Ctx) (s : State) (conn : Nat) (argv : List Bytes)
    (hq : (s.session conn).queue = none) :
    (dispatchParsed c s conn argv .exec).st = s ∧ (dispatchParsed c s conn argv .exec).reply = errExecNoMulti ∧
    (dispatchParsed c s conn argv .discard).st = s ∧ (dispatchParsed c s conn argv .discard).reply = errDiscardNoMulti := by
  simp [dispatchParsed, hq]

/-- nested MULTI and WATCH inside MULTI are errors that leave the transaction state as it was -/
theorem nested_multi_inert (c : Ctx) (s : State) (conn : Nat) (argv : List Bytes) (q : List Queued)
    (hq : (s.session conn).queue = some q) :
    (dispatchParsed c s conn argv .multi).st = s ∧ (dispatchParsed c s conn argv .multi).reply = errNested := by
  simp [dispatchParsed, hq, Cmd.isControl]

theorem watch_inside_multi_inert (c : Ctx) (s : State) (conn : Nat) (argv : List Bytes) (q : List Queued) (ks : List Bytes)
    (hq : (s.session conn).queue = some q) :
    (dispatchParsed c s conn argv (.watch ks)).st = s ∧
    (dispatchParsed c s conn argv (.watch ks)).reply.isError = true := by
  simp only [dispatchParsed, hq, Cmd.isControl, Bool.not_true, Bool.false_eq_true, ↓reduceIte, runCmd]
  refine ⟨by simp, ?_⟩
  unfold downIf errWatchInMulti
  split_ifs <;> rfl

/-- MULTI opens an empty queue and touches nothing else -/
theorem multi_opens_queue (c : Ctx) (s : State) (conn : Nat) (argv : List Bytes)
    (hq : (s.session conn).queue = none) :
    let o := dispatchParsed c s conn argv .multi
    o.reply = vOK ∧ o.st.heap = s.heap ∧ (o.st.session conn).queue = some [] ∧
    (o.st.session conn).watches = (s.session conn).watches := by
  simp [dispatchParsed, hq]

/-- DISCARD drops the queue and the watches and touches no data -/
theorem discard_resets (c : Ctx) (s : State) (conn : Nat) (argv : List Bytes) (q : List Queued)
    (hq : (s.session conn).queue = some q) :
    let o := dispatchParsed c s conn argv .discard
    o.reply = vOK ∧ o.st.heap = s.heap ∧ (o.st.session conn).queue = none ∧ (o.st.session conn).watches = [] := by
  simp [dispatchParsed, hq, Cmd.isControl]

/-- after EXEC — executed, aborted by a flagged queue, or (with the repaired behaviour, quirk
    off) aborted by WATCH — the connection is in normal mode with no watched keys -/
theorem exec_resets (c : Ctx) (s : State) (conn : Nat) (argv : List Bytes) (q : List Queued)
    (hq : (s.session conn).queue = some q)
    (hab : c.q.abortedExecStaysMulti = false)
    (hnc : (execQueue c conn q (implElems c) s [] [] []).2.2.2.2 = none) :   -- no queued handler panics (C13)
    let o := dispatchParsed c s conn argv .exec
    (o.st.session conn).queue = none ∧ (o.st.session conn).watches = [] := by
  simp only [dispatchParsed, hq, Cmd.isControl, Bool.not_true, Bool.false_eq_true, ↓reduceIte, hab, hnc, Option.isSome_none]
  split_ifs <;> (rw [session_setSession]; exact ⟨rfl, rfl⟩)

/-- D23 on the model of the unrepaired code: the WATCH-aborted EXEC leaves the queue in place -/
theorem aborted_exec_stays_multi_witness (c : Ctx) (s : State) (conn : Nat) (argv : List Bytes) (q : List Queued)
    (hq : (s.session conn).queue = some q) (he : (s.session conn).queueErr = false)
    (hw : (s.session conn).watches.any (watchChanged c s) = true)
    (hab : c.q.abortedExecStaysMulti = true) :
    (dispatchParsed c s conn argv .exec).st = s ∧ (dispatchParsed c s conn argv .exec).reply.isNil = true := by
  simp [dispatchParsed, hq, Cmd.isControl, he, hw, hab, Value.isNil]

/-- an EXEC aborted by WATCH executes nothing: no database changes -/
theorem aborted_exec_executes_nothing (c : Ctx) (s : State) (conn : Nat) (argv : List Bytes) (q : List Queued)
    (hq : (s.session conn).queue = some q) (he : (s.session conn).queueErr = false)
    (hw : (s.session conn).watches.any (watchChanged c s) = true) :
    (dispatchParsed c s conn argv .exec).st.heap = s.heap ∧ (dispatchParsed c s conn argv .exec).reply.isNil = true := by
  simp only [dispatchParsed, hq, Cmd.isControl, Bool.not_true, Bool.false_eq_true, ↓reduceIte, he, hw]
  split_ifs <;> simp [Value.isNil]

/-- a queue that was flagged (command rejected while queueing) makes EXEC execute nothing -/
theorem exec_aborts_on_queue_error (c : Ctx) (s : State) (conn : Nat) (argv : List Bytes) (q : List Queued)
    (hq : (s.session conn).queue = some q) (he : (s.session conn).queueErr = true) :
    let o := dispatchParsed c s conn argv .exec
    o.reply = execAbort ∧ o.st.heap = s.heap := by
  simp [dispatchParsed, hq, he, Cmd.isControl]

/-- … and with the repaired behaviour an unknown command inside MULTI flags the queue -/
theorem unknown_command_flags_queue (c : Ctx) (s : State) (conn : Nat) (q : List Queued) (name : Bytes) (args : List Bytes)
    (hq : (s.session conn).queue = some q) (hqe : c.q.queueErrorNoAbort = false)
    (hk : knownCommands.any (sb · == lowerB name) = false) :
    ((dispatch c s conn (name :: args)).st.session conn).queueErr = true ∧
    (dispatch c s conn (name :: args)).st.heap = s.heap := by
  simp [dispatch, hk, hq, hqe]

/-- EXEC answers one reply per queued command, in queue order (no reply is dropped or added),
    unless a handler panics -/
theorem execQueue_length (conn : Nat) (q : List Queued) :
    ∀ (c : Ctx) (impls : List Value) (s : State) (vs : List Value) (hs : List Match) (ps : List (Nat × Bytes × Nat)),
      (∀ x ∈ q, x.argv ≠ []) →
      (execQueue c conn q impls s vs hs ps).2.2.2.2 = none →
      (execQueue c conn q impls s vs hs ps).2.1.length = vs.length + q.length := by
  intro c impls s vs hs ps
  -- the cases of `execQueue`: 1 the queue is done, 2 an entry without words, 3 an unmodelled command,
  -- 4 arguments that do not parse, 5 the handler crashes, 6 the command has run
  fun_induction execQueue c conn q impls s vs hs ps <;> intro hne hnc
  case case1 => simp
  case case2 ha _ => exact absurd ha (hne _ List.mem_cons_self)
  case case5 => cases hnc
  case case3 ih | case4 ih | case6 ih =>
    rw [ih (fun y hy => hne y (List.mem_cons_of_mem _ hy)) hnc, List.length_cons, List.length_cons]
    omega

/-- **What EXEC runs is a history of commands.** The state after the queued commands of a transaction
    is the state after a run of ordinary commands — each the parsed form of a queued command, well-formed,
    under the same quirk flags, bound to the database that was selected when it was queued, with clocks
    that only move forward — so everything proved about histories (the keyspace invariant, versions,
    expired = missing) holds inside transactions too. -/
theorem execQueue_is_history (conn : Nat) (q : List Queued) :
    ∀ (c : Ctx) (impls : List Value) (s : State) (vs : List Value) (hs : List Match) (ps : List (Nat × Bytes × Nat)),
      ∃ evs : List Ev, (execQueue c conn q impls s vs hs ps).1 = runEvents s evs ∧
        (∀ e ∈ evs, e.c.q = c.q ∧ e.cmd.wf = true ∧ e.conn = conn ∧ e.inMulti = true) ∧ clocksFrom c.now evs := by
  intro c impls s vs hs ps
  fun_induction execQueue c conn q impls s vs hs ps
  case case1 => exact ⟨[], rfl, fun _ he => (nomatch he), trivial⟩
  case case2 ih | case3 ih | case4 ih => exact ih
  -- the queued command runs, as one more event a microsecond later; it is the last one when the handler crashes
  case case5 =>
    exact ⟨[⟨_, _, _, _, _⟩], rfl,
      List.forall_mem_cons.mpr ⟨⟨rfl, parseCmdQ_wf _ _ _ _ ‹_›, rfl, rfl⟩, fun _ he => nomatch he⟩,
      Int.le_add_of_nonneg_right (by decide), trivial⟩
  case case6 ih =>
    obtain ⟨evs, h1, h2, h3⟩ := ih
    exact ⟨⟨_, _, _, _, _⟩ :: evs, h1,
      List.forall_mem_cons.mpr ⟨⟨rfl, parseCmdQ_wf _ _ _ _ ‹_›, rfl, rfl⟩, h2⟩,
      Int.le_add_of_nonneg_right (by decide), h3⟩

/-- a transaction keeps the keyspace invariant in every database -/
theorem exec_keeps_invariant (c : Ctx) (conn : Nat) (q : List Queued) (impls : List Value) (s : State)
    (vs : List Value) (hs : List Match) (ps : List (Nat × Bytes × Nat)) (hi : s.KInv) :
    (execQueue c conn q impls s vs hs ps).1.KInv := by
  obtain ⟨evs, h1, h2, _⟩ := execQueue_is_history conn q c impls s vs hs ps
  rw [h1]
  exact runEvents_inv evs s hi (fun e he => (h2 e he).2.1)

/-- every key a transaction changes gets a new version, every key it leaves alone keeps its object -/
theorem exec_versions (c : Ctx) (conn : Nat) (q : List Queued) (impls : List Value) (s : State)
    (vs : List Value) (hs : List Match) (ps : List (Nat × Bytes × Nat)) (hu : s.Uniq)
    (hq : c.q.inplaceKeepsVersion = false ∧ c.q.unlinkKeepsObject = false ∧ c.q.flushDetaches = false) :
    AllVS s (execQueue c conn q impls s vs hs ps).1 := by
  obtain ⟨evs, h1, h2, _⟩ := execQueue_is_history conn q c impls s vs hs ps
  rw [h1]
  refine runEvents_versions evs s hu (fun e he => ?_)
  unfold Ev.repaired
  rw [(h2 e he).1]
  exact hq

end RedisEmu
