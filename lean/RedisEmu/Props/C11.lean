import RedisEmu.Block
import RedisEmu.Proofs.MWake
import RedisEmu.Wake
import Mathlib.Tactic.SplitIfs
/-
  C11 — blocking pops (partial). Theorems about the transition systems `RedisEmu.Block` (order and
  conservation on one key), `RedisEmu.Wake` (wake-up accounting, one key) and `RedisEmu.MWake` (clients
  that wait for several keys): they hold for every interleaving of pushes, registrations, looks and retries
  of woken clients, steals and departures, of any number of clients. The tie to the Go code is the `block`
  tool (real goroutines, schedule points). Goroutine scheduling and channel timing are not modelled.
-/
namespace RedisEmu

def Conserved (s : BState) : Prop :=
  (s.delivered.map (·.2) ++ s.removed ++ s.list).Perm s.pushed

theorem conserved_step (s : BState) (st : BStep) (h : Conserved s) : Conserved (bstep s st) := by
  unfold Conserved at *
  cases st with
  | push xs => simpa [bstep, wake] using h.append_right xs
  | register => exact h
  | retry c =>
    simp only [bstep]
    split_ifs
    · cases hl : s.list with
      | nil => simpa [hl] using h
      | cons x r =>
        -- x moves from the head of the list to the end of `delivered`
        rw [hl] at h
        refine .trans ?_ h
        simpa [List.perm_append_left_iff] using List.perm_middle.symm
    · exact h
  | steal =>
    simp only [bstep]
    cases hl : s.list <;> simpa [hl] using h
  | leave c => exact h

/-- **Exactly-once delivery and conservation.** Across every interleaving of pushes, blocking pops and
    non-blocking pops, each pushed element is returned to exactly one consumer, explicitly removed, or
    still in its list — never lost, never duplicated (as multisets). -/
theorem conservation (steps : List BStep) : Conserved (brun {} steps) :=
  List.foldlRecOn steps bstep (.refl _) fun s h st _ => conserved_step s st h

/-- elements leave the list head in list order: a retry or a steal takes exactly the current head -/
theorem pops_take_head (s : BState) (c x : Nat) (r : List Nat) (hl : s.list = x :: r) (hw : c ∈ s.woken) :
    (bstep s (.retry c)).list = r ∧ (bstep s (.retry c)).delivered = s.delivered ++ [(c, x)] ∧
    (bstep s .steal).list = r := by
  simp [bstep, hl, hw]

/-- **Longest waiter first.** A push of `n` elements wakes exactly the `n` longest-registered waiters,
    in registration order, and leaves the others queued in their order. -/
theorem push_wakes_longest_waiters (s : BState) (xs : List Nat) :
    (bstep s (.push xs)).woken = s.woken ++ s.queue.take xs.length ∧
    (bstep s (.push xs)).queue = s.queue.drop xs.length := by
  simp [bstep, wake]

/-- registration appends: a client that registers later never overtakes one that registered earlier -/
theorem register_appends (s : BState) :
    (bstep s .register).queue = s.queue ++ [s.nextId] := by
  simp [bstep]

/-- client ids that are all different and all handed out already (below the next id `n`) -/
def Roster (l : List Nat) (n : Nat) : Prop := l.Nodup ∧ ∀ c ∈ l, c < n

theorem Roster.sublist {l l' : List Nat} {n : Nat} (h : Roster l n) (hs : l'.Sublist l) : Roster l' n :=
  ⟨hs.nodup h.1, fun c hc => h.2 c (hs.subset hc)⟩

theorem Roster.perm {l l' : List Nat} {n : Nat} (h : Roster l n) (hp : l'.Perm l) : Roster l' n :=
  ⟨hp.nodup_iff.mpr h.1, fun c hc => h.2 c (hp.subset hc)⟩

theorem Roster.snoc {l : List Nat} {n : Nat} (h : Roster l n) : Roster (l ++ [n]) (n + 1) := by
  refine ⟨List.nodup_append.mpr ⟨h.1, List.pairwise_singleton _ _, fun a ha b hb => ?_⟩, fun c hc => ?_⟩
  · cases List.mem_singleton.mp hb
    exact Nat.ne_of_lt (h.2 a ha)
  · rcases List.mem_append.mp hc with e | e
    · exact Nat.lt_succ_of_lt (h.2 c e)
    · cases List.mem_singleton.mp e
      exact Nat.lt_succ_self _

theorem insertAge_perm (c : Nat) (l : List Nat) : (insertAge c l).Perm (c :: l) := by
  induction l with
  | nil => exact .refl _
  | cons x r ih =>
    unfold insertAge
    split_ifs
    · exact .refl _
    · exact (ih.cons x).trans (.swap c x r)

theorem mem_insertAge (c y : Nat) (l : List Nat) : y ∈ insertAge c l ↔ y = c ∨ y ∈ l :=
  (insertAge_perm c l).mem_iff.trans List.mem_cons

theorem pairwise_insertAge (c : Nat) (l : List Nat) (hs : l.Pairwise (· < ·)) (hc : c ∉ l) :
    (insertAge c l).Pairwise (· < ·) := by
  induction l with
  | nil => simp [insertAge]
  | cons x r ih =>
    have ⟨hxr, hsr⟩ := List.pairwise_cons.mp hs
    have hx : c ≠ x := fun h => hc (h ▸ List.mem_cons_self)
    unfold insertAge
    split_ifs with hlt
    · refine List.pairwise_cons.mpr ⟨fun y hy => ?_, hs⟩
      rcases List.mem_cons.mp hy with h | h
      · omega
      · exact Nat.lt_trans hlt (hxr y h)
    · refine List.pairwise_cons.mpr ⟨fun y hy => ?_, ih hsr fun h => hc (List.mem_cons_of_mem _ h)⟩
      rcases (mem_insertAge c y r).mp hy with h | h
      · omega
      · exact hxr y h

/-- the bookkeeping invariant: the wait queue is ordered by age (longest-blocked client first), every
    known client is older than the next id, and no client is queued and woken at once or woken twice -/
structure QInv (s : BState) : Prop where
  sorted : s.queue.Pairwise (· < ·)
  qlt : ∀ c ∈ s.queue, c < s.nextId
  wlt : ∀ c ∈ s.woken, c < s.nextId
  disj : ∀ c ∈ s.woken, c ∉ s.queue
  wnodup : s.woken.Nodup

theorem qinv_iff (s : BState) :
    QInv s ↔ s.queue.Pairwise (· < ·) ∧ Roster (s.woken ++ s.queue) s.nextId := by
  constructor
  · intro h
    refine ⟨h.sorted, List.nodup_append.mpr ⟨h.wnodup, h.sorted.imp Nat.ne_of_lt, ?_⟩, ?_⟩
    · intro a ha b hb e; exact h.disj a ha (e ▸ hb)
    · intro c hc; exact (List.mem_append.mp hc).elim (h.wlt c) (h.qlt c)
  · intro ⟨hs, hn, hf⟩
    have hn := List.nodup_append.mp hn
    exact ⟨hs, fun c hc => hf c (List.mem_append_right _ hc), fun c hc => hf c (List.mem_append_left _ hc),
      fun c hc hq => hn.2.2 c hc c hq rfl, hn.1⟩

theorem qinv_step (s : BState) (st : BStep) (h : QInv s) : QInv (bstep s st) := by
  have ⟨hs, hr⟩ := (qinv_iff s).mp h
  rw [qinv_iff]
  cases st with
  -- a push moves queue heads to the end of the woken clients: the roster is the same list
  | push xs => exact ⟨hs.sublist (List.drop_sublist _ _), by simpa [bstep, wake] using hr⟩
  | register =>
    refine ⟨List.pairwise_append.mpr ⟨hs, List.pairwise_singleton _ _, fun a ha b hb => ?_⟩,
      by simpa [bstep] using hr.snoc⟩
    cases List.mem_singleton.mp hb
    exact h.qlt a ha
  | retry c =>
    simp only [bstep]
    split_ifs with hw
    · cases s.list with
      | cons x r => exact ⟨hs, hr.sublist (List.erase_sublist.append (.refl _))⟩
      | nil =>
        -- back to its place: the same clients, the queue still in order
        refine ⟨pairwise_insertAge c s.queue hs (h.disj c hw), hr.perm ?_⟩
        exact ((insertAge_perm c _).append_left _).trans
          (List.perm_middle.trans ((List.perm_cons_erase hw).append_right _).symm)
    · exact ⟨hs, hr⟩
  | steal =>
    simp only [bstep]
    cases s.list <;> exact ⟨hs, hr⟩
  | leave c => exact ⟨hs.sublist List.erase_sublist, hr.sublist (List.erase_sublist.append List.erase_sublist)⟩

/-- **The wait queue is always in order of age**, whatever happened before: in every reachable state
    the head of the queue is the longest-blocked registered client, so `push_wakes_longest_waiters`
    serves the longest-blocked clients first — also after wake-ups that found nothing (repaired:
    such a client used to go to the end of the queue). -/
theorem queue_ordered_by_age (steps : List BStep) : QInv (brun {} steps) :=
  List.foldlRecOn steps bstep (by constructor <;> simp) fun s h st _ => qinv_step s st h

/-- **No stranded waiter (repaired behaviour).** A woken client whose retry finds the list empty is
    back in the wait queue afterwards, so the next push wakes it again. (On the unrepaired code it was
    in no queue: D29.) -/
theorem failed_retry_reregisters (s : BState) (c : Nat) (hw : c ∈ s.woken) (hl : s.list = []) :
    c ∈ (bstep s (.retry c)).queue := by
  simp [bstep, hw, hl, mem_insertAge]

/-- … and ahead of every client that blocked after it -/
theorem failed_retry_keeps_place (s : BState) (c : Nat) (h : QInv s) :
    (bstep s (.retry c)).queue.Pairwise (· < ·) :=
  (qinv_step s (.retry c) h).sorted

/-- a push of more elements than a queued client has waiters ahead of it wakes that client -/
theorem push_wakes_position (s : BState) (c i : Nat) (xs : List Nat) (hq : s.queue[i]? = some c)
    (hi : i < xs.length) : c ∈ (bstep s (.push xs)).woken :=
  List.mem_append_right _ (List.mem_of_getElem? ((List.getElem?_take_of_lt hi).trans hq))

/-- … hence a later push of at least as many elements as there are waiters ahead of it wakes it -/
theorem next_push_wakes_it (s : BState) (c : Nat) (xs : List Nat) (hq : s.queue = [c]) (hx : xs ≠ []) :
    c ∈ (bstep s (.push xs)).woken :=
  push_wakes_position s c 0 xs (by rw [hq]; rfl) (List.length_pos_iff.mpr hx)

/-- non-vacuity: three clients block, a push wakes the oldest, its element is stolen, it takes its
    place again ahead of the two younger ones, and the next push serves it first -/
example :
    let s := brun {} [.register, .register, .register, .push [7], .steal, .retry 0, .push [8], .retry 0]
    s.delivered = [(0, 8)] ∧ s.queue = [1, 2] := by decide

/-! ### no lost wake-up

The accounting model `RedisEmu.Wake`: a client that registers will look at the list once more
(`pending`), a push hands out one token per element to the queue heads, a token holder retries, and a
client that leaves with an unused token passes it on (the repaired behaviour, D84). -/

/-- As many tokens outstanding as the list has elements, or nobody waits passively: the shape of `MInv`, and
    stronger than `WInv`, which also counts the looks still to come. What keeps it inductive: the clients that
    hold a token or are queued form a roster. -/
structure WFull (s : WState) : Prop where
  acc : s.list.length ≤ s.token.length ∨ ∀ c ∈ s.queue, c ∈ s.pending
  roster : Roster (s.token ++ s.queue) s.nextId

theorem wakeOne_nextId (s : WState) : (wakeOne s).nextId = s.nextId := by
  unfold wakeOne; cases s.queue <;> rfl

theorem wakeOne_roster (s : WState) : (wakeOne s).token ++ (wakeOne s).queue = s.token ++ s.queue := by
  unfold wakeOne; cases hq : s.queue <;> simp [hq]

/-- handing a token to the queue head balances the account of a state that is one token short -/
theorem wakeOne_acc (s : WState)
    (h : s.list.length ≤ s.token.length + 1 ∨ ∀ d ∈ s.queue, d ∈ s.pending) :
    (wakeOne s).list.length ≤ (wakeOne s).token.length ∨ ∀ d ∈ (wakeOne s).queue, d ∈ (wakeOne s).pending := by
  unfold wakeOne
  cases hq : s.queue with
  | nil => right; simp [hq]
  | cons c r =>
    rw [hq] at h
    exact h.imp (fun a => by simpa using a) (fun a d hd => a d (List.mem_cons_of_mem _ hd))

theorem len_erase (l : List Nat) (c : Nat) (h : c ∈ l) : (l.erase c).length + 1 = l.length := by
  rw [List.length_erase_of_mem h, Nat.sub_add_cancel (List.length_pos_of_mem h)]

/-- a client leaves the wait lists holding a token it never used, and passes it on -/
theorem wfull_pass_on (s : WState) (c : Nat) (l p : List Nat) (h : WFull s) (hc : c ∈ s.token)
    (hacc : l.length ≤ s.token.length ∨ ∀ d ∈ s.queue.erase c, d ∈ p) :
    WFull (wakeOne { s with list := l, pending := p, queue := s.queue.erase c, token := s.token.erase c }) := by
  refine ⟨wakeOne_acc _ ?_, ?_⟩
  · rwa [len_erase _ c hc]
  · rw [wakeOne_roster, wakeOne_nextId]
    exact h.roster.sublist (List.erase_sublist.append List.erase_sublist)

theorem wstep_look_not_pending (b : Bool) (s : WState) (c : Nat) (h : c ∉ s.pending) : wstep b s (.look c) = s := by
  simp [wstep, h]

theorem wstep_look_empty (b : Bool) (s : WState) (c : Nat) (h : c ∈ s.pending) (hl : s.list = []) :
    wstep b s (.look c) = { s with pending := s.pending.erase c } := by
  simp [wstep, h, hl]

theorem wstep_look_pop_plain (b : Bool) (s : WState) (c x : Nat) (r : List Nat) (h : c ∈ s.pending) (hl : s.list = x :: r)
    (ht : c ∉ s.token) :
    wstep b s (.look c) = { s with list := r, pending := s.pending.erase c, queue := s.queue.erase c } := by
  simp [wstep, h, hl, ht]

theorem wstep_look_pop_token (s : WState) (c x : Nat) (r : List Nat) (h : c ∈ s.pending) (hl : s.list = x :: r)
    (ht : c ∈ s.token) :
    wstep true s (.look c) =
      wakeOne { s with list := r, pending := s.pending.erase c, queue := s.queue.erase c, token := s.token.erase c } := by
  simp [wstep, h, hl, ht]

theorem wstep_retry_idle (b : Bool) (s : WState) (c : Nat) (h : ¬ (c ∈ s.token ∧ c ∉ s.pending)) : wstep b s (.retry c) = s := by
  simp only [wstep, h, if_false]

theorem wstep_retry_pop (b : Bool) (s : WState) (c x : Nat) (r : List Nat) (h : c ∈ s.token ∧ c ∉ s.pending) (hl : s.list = x :: r) :
    wstep b s (.retry c) = { s with list := r, token := s.token.erase c } := by
  simp [wstep, h.1, h.2, hl]

theorem wstep_retry_vain (b : Bool) (s : WState) (c : Nat) (h : c ∈ s.token ∧ c ∉ s.pending) (hl : s.list = []) :
    wstep b s (.retry c) = { s with token := s.token.erase c, queue := s.queue ++ [c] } := by
  simp [wstep, h.1, h.2, hl]

theorem wstep_leave_pending (b : Bool) (s : WState) (c : Nat) (h : c ∈ s.pending) : wstep b s (.leave c) = s := by
  simp [wstep, h]

theorem wstep_leave_plain (b : Bool) (s : WState) (c : Nat) (h : c ∉ s.pending) (ht : c ∉ s.token) :
    wstep b s (.leave c) = { s with queue := s.queue.erase c } := by
  simp [wstep, h, ht]

theorem wstep_leave_token (s : WState) (c : Nat) (h : c ∉ s.pending) (ht : c ∈ s.token) :
    wstep true s (.leave c) = wakeOne { s with queue := s.queue.erase c, token := s.token.erase c } := by
  simp [wstep, h, ht]

theorem wfull_step (s : WState) (st : WStep) (h : WFull s) : WFull (wstep true s st) := by
  have hr := h.roster
  -- a client is queued once: when it leaves the queue, the others are as pending as before
  have hmem (c) : (∀ d ∈ s.queue, d ∈ s.pending) → ∀ d ∈ s.queue.erase c, d ∈ s.pending.erase c := by
    intro a d hd
    have hq := (List.Nodup.mem_erase_iff (List.nodup_append.mp hr.1).2.1).mp hd
    exact (List.mem_erase_of_ne hq.1).mpr (a d hq.2)
  cases st with
  | push xs =>
    -- a push moves queue heads to the end of the token holders
    refine ⟨?_, by simpa [wstep] using hr⟩
    by_cases hle : xs.length ≤ s.queue.length
    · exact h.acc.imp (fun a => by simp [wstep, Nat.min_eq_left hle]; omega)
        (fun a c hc => a c (List.mem_of_mem_drop hc))
    · right; simp [wstep, Nat.min_eq_right (Nat.le_of_not_le hle)]
  | register =>
    refine ⟨h.acc.imp (fun a => by simp [wstep]; omega) fun a c hc => ?_, by simpa [wstep] using hr.snoc⟩
    exact (List.mem_append.mp hc).elim (fun e => List.mem_append_left _ (a c e)) (List.mem_append_right _)
  | look c =>
    by_cases hp : c ∈ s.pending
    · cases hl : s.list with
      | nil => rw [wstep_look_empty true s c hp hl]; exact ⟨Or.inl (by simp [hl]), hr⟩
      | cons x r =>
        have hacc := h.acc
        simp only [hl, List.length_cons] at hacc
        by_cases htk : c ∈ s.token
        · rw [wstep_look_pop_token s c x r hp hl htk]
          exact wfull_pass_on s c _ _ h htk (hacc.imp (fun a => by omega) (hmem c))
        · rw [wstep_look_pop_plain true s c x r hp hl htk]
          exact ⟨hacc.imp (fun a => by simp only; omega) (hmem c),
            hr.sublist ((List.Sublist.refl _).append List.erase_sublist)⟩
    · rw [wstep_look_not_pending true s c hp]; exact h
  | retry c =>
    by_cases hc : c ∈ s.token ∧ c ∉ s.pending
    · cases hl : s.list with
      | nil =>
        rw [wstep_retry_vain true s c hc hl]
        refine ⟨Or.inl (by simp [hl]), hr.perm ?_⟩
        rw [← List.append_assoc]
        exact (List.perm_append_singleton c _).trans ((List.perm_cons_erase hc.1).symm.append_right _)
      | cons x r =>
        rw [wstep_retry_pop true s c x r hc hl]
        have htlen := len_erase s.token c hc.1
        have hacc := h.acc
        simp only [hl, List.length_cons] at hacc
        exact ⟨hacc.imp (fun a => by simp only; omega) id, hr.sublist (List.erase_sublist.append (.refl _))⟩
    · rw [wstep_retry_idle true s c hc]; exact h
  | steal => exact ⟨h.acc.imp (fun a => by simp [wstep]; omega) id, hr⟩
  | leave c =>
    by_cases hp : c ∈ s.pending
    · rw [wstep_leave_pending true s c hp]; exact h
    · have hq : (∀ d ∈ s.queue, d ∈ s.pending) → ∀ d ∈ s.queue.erase c, d ∈ s.pending :=
        fun a d hd => a d (List.mem_of_mem_erase hd)
      by_cases htk : c ∈ s.token
      · rw [wstep_leave_token s c hp htk]
        exact wfull_pass_on s c _ _ h htk (h.acc.imp id hq)
      · rw [wstep_leave_plain true s c hp htk]
        exact ⟨h.acc.imp id hq, hr.sublist ((List.Sublist.refl _).append List.erase_sublist)⟩

theorem wfull_reachable (steps : List WStep) : WFull (wrun true {} steps) :=
  List.foldlRecOn steps (wstep true) ⟨Or.inl (Nat.le_refl _), List.nodup_nil, fun _ h => nomatch h⟩
    fun s h st _ => wfull_step s st h

/-- **No lost wake-up.** In every reachable state: if the list holds elements while some client is
    registered and passively waiting for a wake-up, then at least as many clients are about to look at the
    list (their first look after registering is still to come, or they hold a wake-up token) as there are
    elements. In particular, once nobody is in motion, a non-empty list means nobody is waiting:
    no client stays blocked on a list that holds data. -/
theorem no_lost_wakeup (steps : List WStep) :
    let s := wrun true {} steps
    s.list.length ≤ s.pending.length + s.token.length ∨ ∀ c ∈ s.queue, c ∈ s.pending :=
  (wfull_reachable steps).acc.imp_left fun a => Nat.le_trans a (Nat.le_add_left _ _)

theorem quiescent_means_served (steps : List WStep)
    (hp : (wrun true {} steps).pending = []) (ht : (wrun true {} steps).token = [])
    (hl : (wrun true {} steps).list ≠ []) :
    (wrun true {} steps).queue = [] := by
  rcases no_lost_wakeup steps with a | a
  · rw [hp, ht] at a
    exact absurd (List.eq_nil_of_length_eq_zero (Nat.le_zero.mp a)) hl
  · rw [hp] at a
    exact List.eq_nil_iff_forall_not_mem.mpr fun c hc => nomatch a c hc

/-- D84 on the code before the repair: two clients wait; a push wakes the older one, which leaves at
    that moment (its timeout, CLIENT UNBLOCK) — the element stays in the list, nobody is in motion, and
    the younger client is still blocked -/
theorem lost_wakeup_before_repair :
    let s := wrun false {} [.register, .look 0, .register, .look 1, .push [7], .leave 0]
    s.list = [7] ∧ s.pending = [] ∧ s.token = [] ∧ s.queue = [1] := by
  decide

/-- the same schedule on the repaired code: the wake-up is passed on -/
example :
    let s := wrun true {} [.register, .look 0, .register, .look 1, .push [7], .leave 0, .retry 1]
    s.list = [] ∧ s.queue = [] ∧ s.token = [] := by
  decide

/-! ### clients that wait for several keys (`RedisEmu.MWake`)

`BLPOP a b 0`, BLMPOP: a client is linked into the wait queue of each of its keys; a push to one key wakes it
and unlinks it from all of them; it then looks at its keys in order. Per key `k` the invariant `MInv` says:
the list of `k` has no more elements than there are wake-ups raised by `k` and not acted on yet — or nobody
waits passively for `k`. That is `WFull.acc` key by key; in the place of the roster, what keeps it inductive is
`AllOk`: whoever holds a wake-up is unlinked, and one of its own keys raised it (`MFull`, `Proofs/MWake`). -/

/-- **No lost wake-up for clients that wait for several keys.** Every step of the repaired behaviour keeps,
    for every key, "as many wake-ups outstanding as the list has elements, or nobody waits passively". -/
theorem mfull_step (s : MState) (st : MStep) (h : MFull s) : MFull (mstep true s st true) := by
  fun_cases mstep true s st true with
  | case1 k n => exact mfull_push s k n h
  | case2 keys => exact mfull_snoc s _ h rfl rfl
  -- look: served at once; all lists empty
  | case4 i c hc _ j _ => exact mfull_leave s i c _ h hc (decLen_le s.len j)
  | case5 i c hc _ hf => exact mfull_stays s i c _ h hc hf rfl (h.ok c (List.mem_of_getElem? hc)) (.inl rfl)
  -- retry: served from `j`; woken in vain
  | case10 i c hc k0 ht _ j _ => exact mfull_served s i k0 j c h hc ht
  | case11 i c hc k0 ht _ hf => exact mfull_stays s i c _ h hc hf rfl ⟨nofun, nofun⟩ (.inr rfl)
  -- reenter; steal; leave
  | case13 i c hc hcond =>
    simp only [Bool.and_eq_true, Option.isNone_iff_eq_none] at hcond
    exact mfull_relink s i c h hc hcond.1.2
  | case15 k => exact mfull_shrink s _ h (decLen_le s.len k)
  | case18 i c hc _ => exact mfull_leave s i c _ h hc fun _ => Nat.le_refl _
  -- the others: no client at the position, or not in the state the step is for
  | case3 | case6 | case7 | case8 | case9 | case12 | case14 | case16 | case17 => exact h

/-- … hence in every reachable state, whatever the clients, keys and interleaving -/
theorem mfull_reachable (steps : List MStep) : MFull (mrun true {} steps) :=
  List.foldlRecOn steps _ mfull_init fun s h st _ => mfull_step s st h

/-- Quiescence of one key is enough: once no wake-up raised by `k` is outstanding and whoever is linked in
    `k`'s queue has had its look, a non-empty list of `k` has no waiter. -/
theorem key_quiescent_means_served (steps : List MStep) (k : Nat)
    (ht : ∀ c ∈ (mrun true {} steps).cs, c.token ≠ some k)
    (hp : ∀ c ∈ (mrun true {} steps).cs, c.waitsOn k = true → c.pending = false)
    (hl : 0 < (mrun true {} steps).len k) :
    ∀ c ∈ (mrun true {} steps).cs, c.waitsOn k = false := by
  intro c hc
  rcases (mfull_reachable steps).inv k with a | a
  · have : tokens k (mrun true {} steps).cs = 0 :=
      List.countP_eq_zero.mpr fun d hd => by simpa using ht d hd
    omega
  · cases hw : c.waitsOn k with
    | false => rfl
    | true => have := a c hc hw; rw [hp c hc hw] at this; cases this

/-- **Nobody stays blocked on a non-empty list.** In every reachable state in which nobody is in motion (no
    client is about to look at its lists, no wake-up is outstanding), a key whose list is not empty has no
    waiter — for any number of clients, any sets of keys, any interleaving of pushes, pops, registrations,
    looks, retries, timeouts and unblocks. -/
theorem multi_key_quiescent_means_served (steps : List MStep) (k : Nat)
    (hq : ∀ c ∈ (mrun true {} steps).cs, c.pending = false ∧ c.token = none)
    (hl : 0 < (mrun true {} steps).len k) :
    ∀ c ∈ (mrun true {} steps).cs, c.waitsOn k = false :=
  key_quiescent_means_served steps k (fun c hc e => by rw [(hq c hc).2] at e; cases e)
    (fun c hc _ => (hq c hc).1) hl

/-- the history of D90: W1 waits for keys 0 and 1, W2 for key 1; a push to key 1 wakes W1, a push to key 0
    follows; W1 is served from key 0 -/
def d90Trace : List MStep :=
  [.register [0, 1], .look 0, .register [1], .look 1, .push 1 1, .push 0 1, .retry 0]

/-- D90 on the behaviour before the repair: the element stays in list 1, no wake-up is outstanding, and W2
    waits passively for key 1 — a lost wake-up -/
theorem multi_key_lost_wakeup_before_repair :
    let s := mrun false {} d90Trace
    s.len 1 = 1 ∧ tokens 1 s.cs = 0 ∧ s.cs = [{ keys := [1], pending := false, token := none, queued := true }] := by
  decide

/-- … and with the repair W2 holds the wake-up -/
theorem multi_key_wakeup_passed_on :
    let s := mrun true {} d90Trace
    s.len 1 = 1 ∧ s.cs = [{ keys := [1], pending := false, token := some 1, queued := false }] := by
  decide

/-- a client is woken, finds its element taken, and a push lands before it has linked itself into the queue
    again -/
def reenterTrace : List MStep :=
  [.register [0], .look 0, .push 0 1, .steal 0, .retry 0, .push 0 1, .reenter 0]

/-- without the look that follows the re-registration (the seeded change C11-f) the element stays in the list
    and the client waits passively: a lost wake-up — the model's `lookAgain` flag is what that look is for -/
theorem reenter_without_look_loses_wakeup :
    let s := mrun true {} reenterTrace false
    s.len 0 = 1 ∧ tokens 0 s.cs = 0 ∧ s.cs = [{ keys := [0], pending := false, token := none, queued := true }] := by
  decide

theorem reenter_with_look_is_served :
    (mrun true {} (reenterTrace ++ [.look 0])).cs = [] ∧ (mrun true {} (reenterTrace ++ [.look 0])).len 0 = 0 := by
  decide

end RedisEmu
