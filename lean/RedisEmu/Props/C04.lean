import RedisEmu.Exec
import RedisEmu.Proofs.Random
import RedisEmu.Proofs.GoArithHash
import RedisEmu.Proofs.AList
import RedisEmu.Props.C02
/-
  C04 — hash commands. Theorems about `RedisEmu.Cmds` (family `hash` of the correspondence run).
-/
namespace RedisEmu

/-! ### HINCRBY succeeds exactly when the field is absent or holds an int64 and the sum fits -/

/-- existing integer field, sum in range: reply is the sum, the field holds its decimal form
    (for every sign combination) -/
theorem hincrby_in_range (c : Ctx) (db : Db) (k f old : Bytes) (e : Entry) (h : List (Bytes × Bytes)) (v d : Int)
    (hq : c.q.hincrbyCmpDelta = false)
    (hh : hashOf c db k = .ok (some (e, h))) (hf : alookup f h = some old) (hp : parseInt64 old = some v)
    (hv : inRange64 v = true) (hd : inRange64 d = true) (hin : inRange64 (v + d) = true) :
    (cmdHIncrBy c db k f d).reply = .int (v + d) ∧
    (cmdHIncrBy c db k f d).db = upd c db k e (.hash (ainsert f (showInt (v + d)) h)) := by
  unfold cmdHIncrBy
  simp [hh, hf, hp, hq, addInt_in_range v d hv hd hin, wrap64_of_inRange hin, R.ok]

/-- existing integer field, sum out of range: refused, nothing changes -/
theorem hincrby_overflow_refused (c : Ctx) (db : Db) (k f old : Bytes) (e : Entry) (h : List (Bytes × Bytes)) (v d : Int)
    (hq : c.q.hincrbyCmpDelta = false)
    (hh : hashOf c db k = .ok (some (e, h))) (hf : alookup f h = some old) (hp : parseInt64 old = some v)
    (hv : inRange64 v = true) (hd : inRange64 d = true) (hov : inRange64 (v + d) = false) :
    (cmdHIncrBy c db k f d).reply = errNotInt ∧ (cmdHIncrBy c db k f d).db = db := by
  have hgo := (addInt_overflow_iff v d hv hd).mpr hov
  unfold cmdHIncrBy
  simp [hh, hf, hp, hq, hgo, R.ok]

/-- a field that does not hold an int64 is refused, nothing changes (whatever the quirks) -/
theorem hincrby_non_integer_refused (c : Ctx) (db : Db) (k f old : Bytes) (e : Entry) (h : List (Bytes × Bytes)) (d : Int)
    (hh : hashOf c db k = .ok (some (e, h))) (hf : alookup f h = some old) (hp : parseInt64 old = none) :
    (cmdHIncrBy c db k f d).reply = errNotInt ∧ (cmdHIncrBy c db k f d).db = db := by
  unfold cmdHIncrBy
  simp [hh, hf, hp, R.ok]

/-- an absent field is created holding the increment -/
theorem hincrby_absent_field (c : Ctx) (db : Db) (k f : Bytes) (e : Entry) (h : List (Bytes × Bytes)) (d : Int)
    (hh : hashOf c db k = .ok (some (e, h))) (hf : alookup f h = none) :
    (cmdHIncrBy c db k f d).reply = .int d ∧
    (cmdHIncrBy c db k f d).db = upd c db k e (.hash (ainsert f (showInt d) h)) := by
  unfold cmdHIncrBy
  simp [hh, hf, R.ok]

/-- D10 on the model of the unrepaired code: -5 + 3 is refused although it is in range -/
theorem hincrby_cmpDelta_witness :
    let c : Ctx := { q := { Quirks.none with hincrbyCmpDelta := true }, now := 0 }
    -- key "h", field "f" holding "-5"
    let db := ({} : Db).put [104] (.hash [([102], [45, 53])]) none
    (cmdHIncrBy c db [104] [102] 3).reply.isError = true := by
  decide

/-! ### HSETNX never overwrites -/

theorem hsetnx_existing_untouched (c : Ctx) (db : Db) (k f v old : Bytes) (e : Entry) (h : List (Bytes × Bytes))
    (hq : c.q.hsetnxOverwrites = false)
    (hh : hashOf c db k = .ok (some (e, h))) (hf : alookup f h = some old) :
    (cmdHSet c db k [(f, v)] true false).reply = .int 0 ∧ (cmdHSet c db k [(f, v)] true false).db = db := by
  unfold cmdHSet
  simp [hh, hq, hsetAll, hf, R.ok, vInt]

/-- D11 on the model of the unrepaired code -/
theorem hsetnx_overwrites_witness :
    let c : Ctx := { q := { Quirks.none with hsetnxOverwrites := true }, now := 0 }
    -- key "h", field "f" holding "v"; HSETNX h f w; HGET h f answers "w"
    let db := ({} : Db).put [104] (.hash [([102], [118])]) none
    (cmdHGet c (cmdHSet c db [104] [([102], [119])] true false).db [104] [102]).reply.bulk? = some [119] := by
  decide

/-! ### a hash is a finite map: HSET / HSETNX / HDEL as operations on the field → value mapping -/

/-- the value HSET leaves under a field: the last one given for it, else what was there -/
def lastFor (f : Bytes) : List (Bytes × Bytes) → Option Bytes
  | [] => none
  | (f', v) :: r => match lastFor f r with
    | some v' => some v'
    | none => if f' == f then some v else none

theorem lastFor_cons (f f' v : Bytes) (r h : List (Bytes × Bytes)) :
    (match lastFor f ((f', v) :: r) with | some v => some v | none => alookup f h) =
      (match lastFor f r with | some v => some v | none => alookup f (ainsert f' v h)) := by
  rw [lastFor, alookup_ainsert]
  cases lastFor f r with
  | some _ => rfl
  | none => cases f' == f <;> rfl

/-- **HSET** (any number of pairs, fields repeated or not): afterwards a field holds the last value
    given for it, and every field that was not named holds what it held -/
theorem hsetAll_lookup (fvs : List (Bytes × Bytes)) : ∀ (h : List (Bytes × Bytes)) (n : Nat) (f : Bytes),
    alookup f (hsetAll false fvs h n).1 = (match lastFor f fvs with | some v => some v | none => alookup f h) := by
  intro h n f
  fun_induction hsetAll false fvs h n with
  | case1 => rfl
  | case2 _ _ _ _ _ _ _ hnx => cases hnx
  | case3 _ _ _ _ _ _ _ _ ih => rw [ih, lastFor_cons]
  | case4 _ _ _ _ _ _ ih => rw [ih, lastFor_cons]

theorem hsetAll_single_lookup (f v : Bytes) (h : List (Bytes × Bytes)) :
    alookup f (hsetAll false [(f, v)] h 0).1 = some v := by
  rw [hsetAll_lookup]; simp [lastFor]

/-- **HSETNX** never overwrites: a field that exists keeps its value, whatever is offered -/
theorem hsetAll_nx_keeps (fvs : List (Bytes × Bytes)) : ∀ (h : List (Bytes × Bytes)) (n : Nat) (f old : Bytes),
    alookup f h = some old → alookup f (hsetAll true fvs h n).1 = some old := by
  intro h n f old hl
  fun_induction hsetAll true fvs h n with
  | case1 => exact hl
  | case2 _ _ _ _ _ _ _ _ ih => exact ih hl
  | case3 _ _ _ _ _ _ _ hnx => exact absurd rfl hnx
  | case4 f' v r h n hn ih =>
    -- `f'` is a new field, so it is not `f`
    refine ih ?_
    rw [alookup_ainsert, if_neg, hl]
    intro e; rw [eq_of_beq e, hl] at hn; cases hn

/-- **HDEL**: a named field is gone, every other field keeps its value (fields are unique: the
    invariant of `ainsert`) — also when the hash loses its last field on the way and the loop stops early -/
theorem alookup_hdelAll (fs : List Bytes) : ∀ (h : List (Bytes × Bytes)) (n : Nat) (f : Bytes),
    (h.map (·.1)).Nodup → alookup f (hdelAll fs h n).1 = if fs.contains f then none else alookup f h := by
  intro h n f hu
  fun_induction hdelAll fs h n with
  | case1 => rfl
  -- `case2`: the hash has run empty and the loop stops; `case3`: `g` is there and is erased; `case4`: it is not there
  | case2 g r h n he => rw [List.isEmpty_iff.mp he]; split <;> rfl
  | case3 g r h n _ v hg ih =>
    rw [ih (aerase_keys_nodup g h hu), List.contains_cons]
    by_cases hk : g = f
    · subst hk; simp [alookup_aerase_self_of_unique g h hu]
    · rw [alookup_aerase_ne g f h (beq_false_of_ne hk), beq_false_of_ne (Ne.symm hk)]; rfl
  | case4 g r h n _ hg ih =>
    rw [ih hu, List.contains_cons]
    by_cases hk : f = g
    · subst hk; simp [hg]
    · rw [beq_false_of_ne hk]; rfl

/-- … stated with the case "the hash lost its last field, and with it the key" apart -/
theorem hdelAll_lookup (fs : List Bytes) : ∀ (h : List (Bytes × Bytes)) (n : Nat) (f : Bytes),
    (h.map (·.1)).Nodup →
    alookup f (hdelAll fs h n).1 = (if fs.contains f then none else alookup f h) ∨ (hdelAll fs h n).1 = [] :=
  fun h n f hu => .inl (alookup_hdelAll fs h n f hu)

/-- The condition under which `fieldAddInt` (HINCRBY) answers "overflow", translated from the Go source:
    for every stored int64 and every increment, of either sign, it holds exactly when the true sum leaves
    the int64 range. -/
theorem hincrby_guard_as_coded (v d : BitVec 64) :
    Go.fieldAddIntOverflowGuard v d = true ↔
      (v.toInt + d.toInt < -9223372036854775808 ∨ 9223372036854775807 < v.toInt + d.toInt) := by
  rw [go_fieldAddIntOverflowGuard, addInt_overflow_iff _ _ (inRange64_toInt v) (inRange64_toInt d),
    ← Bool.not_eq_true, inRange64_iff]
  omega

/-- **HRANDFIELD** (without WITHVALUES). `h` is the hash as the model stores it (no field twice), `bs` any
    bucket table holding exactly its fields, `rs` whatever `rand.Intn` delivers: the reply only names
    existing fields, distinct ones and min(n, HLEN) of them for a count n ≥ 0, exactly |n| (repeats
    allowed) for n < 0, one field without a count. -/
theorem hrandfield_reply (h : List (Bytes × Bytes)) (bs : Buckets) (count : Option Int) (rs : List Nat) (v : Value)
    (hd : (h.map (·.1)).Nodup) (hb : bs.members.Perm (h.map (·.1))) (hr : randReply bs count rs = some v) :
    validateRandom (h.map (·.1)) count v = true :=
  random_reply_valid_of_perm _ bs count rs v hd hb hr

/-- WITHVALUES: every drawn field comes with the value the hash holds for it -/
def withValues (h : List (Bytes × Bytes)) (fields : List Bytes) : List (Bytes × Option Bytes) :=
  fields.map fun f => (f, alookup f h)

theorem hrandfield_withvalues (h : List (Bytes × Bytes)) (bs : Buckets) (is : List Nat)
    (hb : bs.members.Perm (h.map (·.1))) (ho : ∀ i ∈ is, bs.occupied i = true) :
    ∀ p ∈ withValues h (keysAt bs is), ∃ v, p.2 = some v ∧ (p.1, v) ∈ h := by
  intro p hp
  obtain ⟨f, hf, rfl⟩ := List.mem_map.mp hp
  have hfm : f ∈ h.map (·.1) := hb.mem_iff.mp (keysAt_mem bs is f hf)
  obtain ⟨v, hv⟩ := Option.ne_none_iff_exists'.mp (mt (alookup_eq_none f h).mp (not_not_intro hfm))
  exact ⟨v, hv, mem_of_alookup f h v hv⟩

/-- this property's part of what the translator delivered on this run -/
theorem go_arith_translated_hash : ["fieldAddIntOverflowGuard"].all (Go.translated.contains ·) = true := by decide

end RedisEmu
