import RedisEmu.Dict
import RedisEmu.Proofs.Rev
import RedisEmu.Proofs.DictWF
import RedisEmu.Proofs.GoArithDict
import Mathlib.Tactic.SplitIfs
/-
  C17 — SCAN / HSCAN / SSCAN. Theorems about `RedisEmu.Dict` (tied to `redisDict.go` /
  `dictScanUnlocked` by the exact-layout correspondence of the `scan` harness tool).

  The environment between two calls of an iteration is modelled as *any* well-formed table of *any*
  size in which the element under consideration is still stored: this covers every history of
  insertions, deletions, doublings and halvings.
-/
namespace RedisEmu

structure Dict.WF (d : Dict) : Prop where
  size : d.buckets.size = 2 ^ d.k
  place : ∀ i it, d.slot i = some it → bucketOf d.k it.hash = i

/-- the item is stored (necessarily in its own bucket) -/
def Dict.Holds (d : Dict) (x : Item) : Prop := d.slot (bucketOf d.k x.hash) = some x

/-- the cursor has not passed the item's bucket — in a table of any size -/
def Ahead (c : Nat) (x : Item) : Prop := ∀ k, rev k c ≤ rev k x.hash

theorem ahead_zero (x : Item) : Ahead 0 x := by
  intro k; simp [rev_zero]

/-- A cursor produced at position `p` of a table of size `2^k`, with the item's bucket at or after
    `p`, is still before (or at) the item's bucket in every table the item may later live in: larger
    (buckets were split) or smaller (buckets were merged). -/
theorem ahead_of_position (k p : Nat) (x : Item) (hp : p < 2 ^ k) (hle : p ≤ rev k x.hash) :
    Ahead (rev k p) x := by
  intro k'
  rcases Nat.le_total k k' with h | h <;> obtain ⟨d, rfl⟩ := Nat.exists_eq_add_of_le h
  · -- the table grew by d doublings
    rw [rev_grow k d _ (rev_lt k p), rev_rev_of_lt k p hp]
    rw [rev_shrink k d] at hle
    exact (Nat.le_div_iff_mul_le (Nat.two_pow_pos d)).mp hle
  · -- the table shrank by d halvings
    rw [rev_shrink k' d (rev _ p), rev_rev_of_lt _ p hp, rev_shrink k' d x.hash]
    exact Nat.div_le_div_right hle

theorem nextOcc_spec (d : Dict) (fuel i : Nat) (h1 : d.size ≤ i + fuel) (h2 : i ≤ d.size) :
    i ≤ nextOcc d fuel i ∧ nextOcc d fuel i ≤ d.size ∧
    (∀ j, i ≤ j → j < nextOcc d fuel i → d.slot j = none) ∧
    (nextOcc d fuel i < d.size → (d.slot (nextOcc d fuel i)).isSome = true) := by
  fun_induction nextOcc d fuel i with
  | case1 i => exact ⟨Nat.le_refl _, h2, fun j _ _ => by omega, fun h => by omega⟩
  | case2 fuel i ha => exact ⟨h2, Nat.le_refl _, fun j _ _ => by omega, fun h => by omega⟩
  | case3 fuel i ha hb => exact ⟨Nat.le_refl _, h2, fun j _ _ => by omega, fun _ => hb⟩
  | case4 fuel i ha hb ih =>
    obtain ⟨r1, r2, r3, r4⟩ := ih (by omega) (by omega)
    refine ⟨by omega, r2, fun j h3 h4 => ?_, r4⟩
    rcases Nat.eq_or_lt_of_le h3 with rfl | hj
    · exact Option.not_isSome_iff_eq_none.mp hb
    · exact r3 j hj h4

def Emits (d : Dict) (f : Bytes → Bool) (a b : Nat) (k : Bytes) : Prop :=
  ∃ i it, a ≤ i ∧ i < b ∧ d.slot i = some it ∧ it.key = k ∧ f k = true

theorem emits_empty (d : Dict) (f : Bytes → Bool) (a b : Nat) (k : Bytes) (h : b ≤ a) : ¬ Emits d f a b k :=
  fun ⟨i, _, _, _, _⟩ => by omega

theorem emits_one (d : Dict) (f : Bytes → Bool) (p : Nat) (k : Bytes) :
    Emits d f p (p + 1) k ↔ ∃ it, d.slot p = some it ∧ it.key = k ∧ f k = true :=
  ⟨fun ⟨i, it, h1, h2, h⟩ => ⟨it, by rwa [show i = p by omega] at h⟩,
   fun ⟨it, h⟩ => ⟨p, it, Nat.le_refl p, Nat.lt_succ_self p, h⟩⟩

theorem emits_split (d : Dict) (f : Bytes → Bool) (p p' q : Nat) (k : Bytes) (h1 : p < p') (h2 : p' ≤ q)
    (hempty : ∀ j, p + 1 ≤ j → j < p' → d.slot j = none) :
    Emits d f p q k ↔ Emits d f p (p + 1) k ∨ Emits d f p' q k := by
  constructor
  · rintro ⟨i, it, h3, h4, hs, h⟩
    by_cases hi : i < p'
    · by_cases hp : i = p
      · exact Or.inl ⟨i, it, h3, by omega, hs, h⟩
      · rw [hempty i (by omega) hi] at hs; cases hs
    · exact Or.inr ⟨i, it, by omega, h4, hs, h⟩
  · rintro (⟨i, it, h3, h4, h⟩ | ⟨i, it, h3, h4, h⟩)
    · exact ⟨i, it, h3, by omega, h⟩
    · exact ⟨i, it, by omega, h4, h⟩

/-- one round of the loop; how many keys it still has to deliver (`count'`) plays no part in what follows -/
theorem scanFrom_succ (d : Dict) (f : Bytes → Bool) (fuel count p : Nat) (acc : List Bytes) :
    ∃ acc' count', (∀ k, k ∈ acc' ↔ k ∈ acc ∨ Emits d f p (p + 1) k) ∧
      scanFrom d f (fuel + 1) (count + 1) p acc =
        if nextOcc d d.size (p + 1) ≥ d.size then (d.size, acc'.reverse)
        else scanFrom d f fuel count' (nextOcc d d.size (p + 1)) acc' := by
  cases hs : d.slot p with
  | none => exact ⟨acc, count + 1, fun k => by simp [emits_one, hs], by rw [scanFrom, hs]⟩
  | some it =>
    by_cases hf : f it.key = true
    · refine ⟨it.key :: acc, count, fun k => ?_, by rw [scanFrom, hs]; simp only [hf, if_true]⟩
      have : it.key = k ∧ f k = true ↔ k = it.key := ⟨fun e => e.1.symm, fun e => ⟨e.symm, e ▸ hf⟩⟩
      simp [emits_one, hs, this, or_comm]
    · refine ⟨acc, count + 1, fun k => ?_, by rw [scanFrom, hs]; simp only [hf]; rfl⟩
      have : ¬ (it.key = k ∧ f k = true) := fun e => hf (e.1 ▸ e.2)
      simp [emits_one, hs, this]

/-- `r` is a possible result of the loop started at bucket `p` with the reply `acc`: stopped at `r.1`, having added
    exactly the keys that sit in the buckets `p ≤ i < r.1` and pass the filter -/
structure Scanned (d : Dict) (f : Bytes → Bool) (p : Nat) (acc : List Bytes) (r : Nat × List Bytes) : Prop where
  le : p ≤ r.1
  le_size : r.1 ≤ d.size
  mem : ∀ k, k ∈ r.2 ↔ k ∈ acc ∨ Emits d f p r.1 k

theorem Scanned.stop (d : Dict) (f : Bytes → Bool) (p : Nat) (acc : List Bytes) (hp : p ≤ d.size) :
    Scanned d f p acc (p, acc.reverse) :=
  ⟨Nat.le_refl p, hp, fun k => by rw [List.mem_reverse, or_iff_left (emits_empty d f p p k (Nat.le_refl p))]⟩

theorem Scanned.step {d : Dict} {f : Bytes → Bool} {p p' : Nat} {acc acc' : List Bytes} {r : Nat × List Bytes}
    (hr : Scanned d f p' acc' r) (hp : p < p') (hempty : ∀ j, p + 1 ≤ j → j < p' → d.slot j = none)
    (hacc : ∀ k, k ∈ acc' ↔ k ∈ acc ∨ Emits d f p (p + 1) k) : Scanned d f p acc r :=
  ⟨Nat.le_trans (Nat.le_of_lt hp) hr.le, hr.le_size, fun k => by
    rw [hr.mem, hacc, emits_split d f p p' r.1 k hp hr.le hempty, or_assoc]⟩

/-- **The loop of one call**, started at a bucket `p` of the table with enough fuel to reach its end, stops at a
    later position unless no key was asked for. Soundness, completeness and progress of a call are read off this. -/
theorem scanFrom_spec (d : Dict) (f : Bytes → Bool) : ∀ (fuel count p : Nat) (acc : List Bytes),
    p < d.size → d.size < p + fuel →
    Scanned d f p acc (scanFrom d f fuel count p acc) ∧ (0 < count → p < (scanFrom d f fuel count p acc).1) := by
  intro fuel
  induction fuel with
  | zero => intro _ p _ _ _; omega
  | succ fuel ih =>
    intro count p acc hp hfuel
    cases count with
    | zero => exact ⟨Scanned.stop d f p acc (Nat.le_of_lt hp), fun h => absurd h (Nat.lt_irrefl 0)⟩
    | succ count =>
      obtain ⟨acc', count', hacc, e⟩ := scanFrom_succ d f fuel count p acc
      obtain ⟨n1, n2, n3, _⟩ := nextOcc_spec d d.size (p + 1) (by omega) (by omega)
      rw [e]
      generalize nextOcc d d.size (p + 1) = p' at *
      -- from the next occupied bucket `p'` on: by induction, or the table ends there
      have hr : ∀ r, Scanned d f p' acc' r → Scanned d f p acc r ∧ (0 < count + 1 → p < r.1) := fun r hr =>
        ⟨hr.step (by omega) n3 hacc, fun _ => by have := hr.le; omega⟩
      split_ifs with hend
      · exact hr _ (Nat.le_antisymm hend n2 ▸ Scanned.stop d f p' acc' n2)
      · exact hr _ (ih count' p' acc' (by omega) (by omega)).1

theorem posOf_lt (d : Dict) (c : Nat) : posOf d c < d.size := rev_lt _ _

theorem posOf_cursorOf (d : Dict) (p : Nat) (hp : p < d.size) : posOf d (cursorOf d p) = p := by
  unfold cursorOf posOf
  rw [if_neg (Nat.not_le_of_lt hp), rev_mod, rev_rev_of_lt _ _ hp]

theorem scan_spec (d : Dict) (f : Bytes → Bool) (c n : Nat) :
    ∃ p', Scanned d f (posOf d c) [] (p', (d.scan f c n).2) ∧ (0 < n → posOf d c < p') ∧
      (d.scan f c n).1 = cursorOf d p' :=
  have h := scanFrom_spec d f (d.size + 1) n (posOf d c) [] (posOf_lt d c) (by omega)
  ⟨_, h.1, h.2, rfl⟩

/-- **Termination on a quiet table.** Each call either finishes the iteration (cursor 0) or moves
    the position strictly forward; positions are below the table size `2^k`, so an iteration over an
    unchanged table ends after at most `2^k` calls, whatever COUNT and filter are used. -/
theorem scan_progress (d : Dict) (f : Bytes → Bool) (c n : Nat) (hn : 1 ≤ n) :
    (d.scan f c n).1 = 0 ∨ posOf d c < posOf d (d.scan f c n).1 := by
  obtain ⟨p', _, hlt, e⟩ := scan_spec d f c n
  rw [e]
  rcases Nat.lt_or_ge p' d.size with h | h
  · exact Or.inr (by rw [posOf_cursorOf d _ h]; exact hlt hn)
  · exact Or.inl (if_pos h)

theorem scan_call (d : Dict) (f : Bytes → Bool) (x : Item) (c n : Nat) (hx : d.Holds x)
    (hf : f x.key = true) (hn : 1 ≤ n) (ha : Ahead c x) :
    x.key ∈ (d.scan f c n).2 ∨ ((d.scan f c n).1 ≠ 0 ∧ Ahead (d.scan f c n).1 x) := by
  obtain ⟨p', hs, hlt, e⟩ := scan_spec d f c n
  have hb : bucketOf d.k x.hash < d.size := bucketOf_lt _ _
  have hc : posOf d c ≤ bucketOf d.k x.hash := by
    rw [bucketOf_eq, posOf, rev_mod]; exact ha d.k
  rw [e]
  rcases Nat.lt_or_ge (bucketOf d.k x.hash) p' with h | h
  · -- the loop went past the bucket of `x`
    exact Or.inl ((hs.mem _).mpr (Or.inr ⟨_, x, hc, h, hx, rfl, hf⟩))
  · -- it stopped at or before it, after at least one step: at a position `0 < p' < 2^k`
    have hp : p' < d.size := by omega
    refine Or.inr ⟨fun h0 => ?_, ?_⟩
    · have := posOf_cursorOf d p' hp
      rw [h0, posOf, Nat.zero_mod, rev_zero] at this
      have := hlt hn
      omega
    · rw [cursorOf, if_neg (Nat.not_le_of_lt hp)]
      exact ahead_of_position d.k p' x hp (by rwa [← bucketOf_eq])

/-- thread the cursor through a sequence of calls; each call sees its own table and COUNT -/
def iterate (f : Bytes → Bool) : List (Dict × Nat) → Nat → List Bytes → Nat × List Bytes
  | [], c, acc => (c, acc)
  | (d, n) :: rest, c, acc =>
    let (c', ks) := d.scan f c n
    iterate f rest c' (acc ++ ks)

/-- The invariant of an iteration: `x` has been returned already, or the cursor has not passed it (and is not the
    terminating 0 once a call has been made). At the end: returned, or the cursor is not 0. -/
theorem iterate_good (f : Bytes → Bool) (x : Item) (hf : f x.key = true) :
    ∀ (calls : List (Dict × Nat)) (c : Nat) (acc : List Bytes),
      (∀ p ∈ calls, p.1.Holds x ∧ 1 ≤ p.2) →
      x.key ∈ acc ∨ (Ahead c x ∧ (calls = [] → c ≠ 0)) →
      x.key ∈ (iterate f calls c acc).2 ∨ (iterate f calls c acc).1 ≠ 0 := by
  intro calls
  induction calls with
  | nil => exact fun c acc _ h => h.imp id fun h => h.2 rfl
  | cons p rest ih =>
    intro c acc hall h
    obtain ⟨hx, hn⟩ := hall p List.mem_cons_self
    refine ih _ _ (fun q hq => hall q (List.mem_cons_of_mem _ hq)) ?_
    rcases h with h | ⟨h, _⟩
    · exact Or.inl (List.mem_append_left _ h)
    · rcases scan_call p.1 f x c p.2 hx hf hn h with r | ⟨r1, r2⟩
      · exact Or.inl (List.mem_append_right _ r)
      · exact Or.inr ⟨r2, fun _ => r1⟩

/-- **SCAN completeness.** Start with cursor 0 and feed every returned cursor back, each call seeing
    an arbitrary well-formed table (of any size: grown, shrunk, with any other elements added or
    removed) and any COUNT ≥ 1. If the element `x` is stored in every one of those tables and passes
    the filter, then when the cursor comes back as 0 the key of `x` has been returned at least once. -/
theorem scan_complete (f : Bytes → Bool) (x : Item) (hf : f x.key = true)
    (calls : List (Dict × Nat)) (hne : calls ≠ [])
    (hall : ∀ p ∈ calls, p.1.WF ∧ p.1.Holds x ∧ 1 ≤ p.2)
    (hdone : (iterate f calls 0 []).1 = 0) :
    x.key ∈ (iterate f calls 0 []).2 :=
  (iterate_good f x hf calls 0 [] (fun p hp => (hall p hp).2) (Or.inr ⟨ahead_zero x, fun h => absurd h hne⟩)).resolve_right
    (fun h => h hdone)

/-- a call never invents a key: everything it returns is stored in the table at the time of the
    call and accepted by the filter -/
theorem scan_sound (d : Dict) (f : Bytes → Bool) (c n : Nat) (k : Bytes) (h : k ∈ (d.scan f c n).2) :
    ∃ i it, d.slot i = some it ∧ it.key = k ∧ f k = true := by
  obtain ⟨_, hs, -, -⟩ := scan_spec d f c n
  obtain ⟨i, it, _, _, h⟩ := ((hs.mem k).mp h).resolve_left List.not_mem_nil
  exact ⟨i, it, h⟩

/-! ### the tables the iteration runs over: `store` and `remove` keep them well-formed and lose nothing

`scan_complete` above quantifies over arbitrary well-formed tables between two calls. The theorems
below show that the tables the code can actually produce are of that kind: starting from the empty
table every `store` / `remove` (with the doublings and halvings they trigger) yields a well-formed
table in which every element that was not removed is still held. -/

theorem wf_empty : Dict.empty.WF :=
  ⟨Array.size_replicate, fun i it h => by rw [Dict.slot_eq, Dict.empty, slotOf_replicate] at h; cases h⟩

theorem Dict.WF.holds_iff {d : Dict} (hw : d.WF) (x : Item) : d.Holds x ↔ ∃ i, d.slot i = some x :=
  ⟨fun h => ⟨_, h⟩, fun ⟨i, h⟩ => by rw [Dict.Holds, hw.place i x h]; exact h⟩

theorem rehash_wf (d : Dict) (k' : Nat) : (rehash d k').WF :=
  ⟨(rehash_spec d k').1, fun i it h => ((rehash_spec d k').2.1 i it h).1⟩

theorem rehash_holds (d : Dict) (k' : Nat) (hw : d.WF) (hsep : Sep k' d.buckets) (x : Item) :
    (rehash d k').Holds x ↔ d.Holds x :=
  ⟨fun h => (hw.holds_iff x).mpr ((rehash_spec d k').2.1 _ x h).2, fun h => (rehash_spec d k').2.2 hsep _ x h⟩

theorem set_spec (d d1 : Dict) (h : Nat) (o : Option Item) (hw : d.WF) (hk : d1.k = d.k)
    (hb : d1.buckets = d.buckets.setIfInBounds (bucketOf d.k h) o) (ho : ∀ it, o = some it → it.hash = h) :
    d1.WF ∧ ∀ x, d1.Holds x ↔ o = some x ∨ (d.Holds x ∧ d.slot (bucketOf d.k h) ≠ some x) := by
  have hs : ∀ i, d1.slot i = if bucketOf d.k h = i then o else d.slot i := fun i => by
    rw [Dict.slot_eq, hb, slotOf_set _ _ _ _ (hw.size ▸ bucketOf_lt _ _)]; rfl
  refine ⟨⟨by rw [hb, hk, Array.size_setIfInBounds, hw.size], fun i it hi => ?_⟩, fun x => ?_⟩
  · rw [hs] at hi
    rw [hk]
    split_ifs at hi with hc
    · rw [ho it hi, hc]
    · exact hw.place i it hi
  · rw [Dict.Holds, hk, hs]
    split_ifs with hc
    · -- `x` belongs in the bucket written
      rw [Dict.Holds, ← hc]
      exact ⟨Or.inl, fun e => e.elim id fun e => absurd e.1 e.2⟩
    · -- `x` belongs elsewhere: it is not what was written, nor what that bucket held
      exact ⟨fun hx => Or.inr ⟨hx, fun e => hc (hw.place _ x e).symm⟩,
        fun e => e.elim (fun e => absurd (ho x e ▸ rfl) hc) (·.1)⟩

theorem set_some_spec (d d1 : Dict) (x0 : Item) (hw : d.WF) (hempty : d.slot (bucketOf d.k x0.hash) = none)
    (hk : d1.k = d.k) (hb : d1.buckets = d.buckets.setIfInBounds (bucketOf d.k x0.hash) (some x0)) :
    d1.WF ∧ ∀ x, d1.Holds x ↔ x = x0 ∨ d.Holds x := by
  obtain ⟨hw1, hh⟩ := set_spec d d1 x0.hash _ hw hk hb (fun _ e => by cases e; rfl)
  exact ⟨hw1, fun x => by rw [hh, hempty]; simp [eq_comm]⟩

theorem set_none_spec (d d1 : Dict) (h : Nat) (it : Item) (hw : d.WF) (hsl : d.slot (bucketOf d.k h) = some it)
    (hk : d1.k = d.k) (hb : d1.buckets = d.buckets.setIfInBounds (bucketOf d.k h) none) :
    d1.WF ∧ ∀ x, d1.Holds x ↔ d.Holds x ∧ x ≠ it := by
  obtain ⟨hw1, hh⟩ := set_spec d d1 h none hw hk hb nofun
  exact ⟨hw1, fun x => by rw [hh, hsl]; simp [eq_comm]⟩

theorem store_cases (d d' : Dict) (key : Bytes) (h : Nat) (hw : d.WF) (hs : d.store key h = .ok d') :
    (d' = d ∧ ∃ it, d.slot (bucketOf d.k h) = some it ∧ it.key = key) ∨
    (d'.WF ∧ ∀ x, d'.Holds x ↔ x = { hash := h, key := key } ∨ d.Holds x) := by
  revert hs
  fun_cases Dict.store d key h with
  | case1 b it0 hsl hk => rintro ⟨⟩; exact Or.inl ⟨rfl, it0, hsl, by simpa using hk⟩
  | case2 => nofun
  | case3 b it0 hsl hk k' hg =>
    -- the table is rebuilt at a size at which the occupant `it0` and the new element part
    rintro ⟨⟩
    obtain ⟨hlt, hdiff⟩ := growTo_spec it0.hash h _ _ _ hg
    have hwr := rehash_wf d k'
    have hr := rehash_holds d k' hw (sep_of_grow d.k k' _ (Nat.le_of_lt hlt) hw.place)
    -- an item in the new element's bucket would share its old bucket too: it is the occupant, which has parted
    have hempty : (rehash d k').slot (bucketOf k' h) = none :=
      Option.eq_none_iff_forall_ne_some.mpr fun y hy => by
        have hby : bucketOf k' y.hash = bucketOf k' h := hwr.place _ y hy
        have hy' : d.Holds y := (hr y).mp ((hwr.holds_iff y).mpr ⟨_, hy⟩)
        rw [Dict.Holds, bucketOf_eq_of_le (Nat.le_of_lt hlt) hby, hsl] at hy'
        cases hy'
        exact hdiff (bucketOf_inj _ _ _ hby)
    exact Or.inr (And.imp_right (fun hh x => by rw [hh, hr])
      (set_some_spec (rehash d k') _ { hash := h, key := key } hwr hempty rfl rfl))
  | case4 b hsl => rintro ⟨⟩; exact Or.inr (set_some_spec d _ { hash := h, key := key } hw hsl rfl rfl)

/-- `store` keeps the table well-formed -/
theorem store_wf (d d' : Dict) (key : Bytes) (h : Nat) (hw : d.WF) (hs : d.store key h = .ok d') : d'.WF := by
  rcases store_cases d d' key h hw hs with ⟨rfl, _⟩ | ⟨hw', _⟩
  · exact hw
  · exact hw'

/-- `store` loses nothing: every element held before is held afterwards (whether or not the table
    was doubled, any number of times, to separate the new element from the occupant of its bucket) -/
theorem store_keeps (d d' : Dict) (key : Bytes) (h : Nat) (x : Item) (hw : d.WF)
    (hs : d.store key h = .ok d') (hx : d.Holds x) : d'.Holds x := by
  rcases store_cases d d' key h hw hs with ⟨rfl, _⟩ | ⟨_, hh⟩
  · exact hx
  · exact (hh x).mpr (Or.inr hx)

/-- after `store` the element is held -/
theorem store_holds (d d' : Dict) (key : Bytes) (h : Nat) (hw : d.WF)
    (hs : d.store key h = .ok d')
    (hkey : ∀ it, d.slot (bucketOf d.k h) = some it → it.key = key → it.hash = h) :
    d'.Holds { hash := h, key := key } := by
  rcases store_cases d d' key h hw hs with ⟨rfl, it, hsl, hk⟩ | ⟨_, hh⟩
  · rw [Dict.Holds, hsl, ← hkey it hsl hk, ← hk]
  · exact (hh _).mpr (Or.inl rfl)

theorem remove_cases (d : Dict) (key : Bytes) (h : Nat) (hw : d.WF) :
    d.remove key h = (d, false) ∨
    ∃ it, d.slot (bucketOf d.k h) = some it ∧ it.key = key ∧ (d.remove key h).2 = true ∧
      (d.remove key h).1.WF ∧ ∀ x, (d.remove key h).1.Holds x ↔ d.Holds x ∧ x ≠ it := by
  fun_cases Dict.remove d key h with
  | case1 => exact Or.inl rfl
  | case2 b it hsl hk d1 _ d2 h2 =>
    simp only [Bool.and_eq_true, decide_eq_true_eq] at h2
    obtain ⟨hw2, hh⟩ := set_none_spec d d2 h it hw hsl rfl rfl
    have hsep : Sep (d.k - 1) d2.buckets :=
      sep_of_halve _ _ (by rw [Nat.sub_add_cancel (Nat.zero_lt_of_lt h2.1)]; exact hw2.place) h2.2
    exact Or.inr ⟨it, hsl, by simpa using hk, rfl, rehash_wf _ _, fun x => (rehash_holds _ _ hw2 hsep x).trans (hh x)⟩
  | case3 b it hsl hk d1 _ d2 => exact Or.inr ⟨it, hsl, by simpa using hk, rfl, set_none_spec d d2 h it hw hsl rfl rfl⟩
  | case4 b it hsl hk d1 => exact Or.inr ⟨it, hsl, by simpa using hk, rfl, set_none_spec d d1 h it hw hsl rfl rfl⟩
  | case5 => exact Or.inl rfl

/-- `remove` keeps the table well-formed, also when it halves it -/
theorem remove_wf (d : Dict) (key : Bytes) (h : Nat) (hw : d.WF) : (d.remove key h).1.WF := by
  rcases remove_cases d key h hw with e | ⟨_, _, _, _, hw', _⟩
  · rw [e]; exact hw
  · exact hw'

/-- `remove` loses nothing but the element it removes: every other element held before is held
    afterwards, also across the halving of the table -/
theorem remove_keeps (d : Dict) (key : Bytes) (h : Nat) (x : Item) (hw : d.WF)
    (hx : d.Holds x) (hne : x.key ≠ key) : (d.remove key h).1.Holds x := by
  rcases remove_cases d key h hw with e | ⟨it, _, hitk, _, _, hh⟩
  · rw [e]; exact hx
  · exact (hh x).mpr ⟨hx, fun e => hne (e ▸ hitk)⟩

/-- after a successful `remove` the element is gone (not merely hidden: no bucket holds it) -/
theorem remove_removes (d : Dict) (key : Bytes) (h : Nat) (hw : d.WF)
    (hok : (d.remove key h).2 = true) : ¬ (d.remove key h).1.Holds { hash := h, key := key } := by
  rcases remove_cases d key h hw with e | ⟨it, hsl, _, _, _, hh⟩
  · rw [e] at hok; cases hok
  · -- what the old table held under `h` is `it` itself
    exact fun hx => ((hh _).mp hx).2 (Option.some.inj (((hh _).mp hx).1.symm.trans hsl))

inductive DictOp where
  | store (key : Bytes) (h : Nat)
  | remove (key : Bytes) (h : Nat)

def applyOp (d : Dict) : DictOp → Option Dict
  | .store key h => match d.store key h with | .ok d' => some d' | .crash => none
  | .remove key h => some (d.remove key h).1

def applyOps : Dict → List DictOp → Option Dict
  | d, [] => some d
  | d, op :: r => match applyOp d op with | some d' => applyOps d' r | none => none

theorem applyOp_spec (d d' : Dict) (op : DictOp) (hw : d.WF) (h : applyOp d op = some d') :
    d'.WF ∧ ∀ x, d.Holds x → (∀ key hh, op = .remove key hh → key ≠ x.key) → d'.Holds x := by
  cases op with
  | store key hh =>
    cases hs : d.store key hh with
    | ok d1 =>
      simp only [applyOp, hs, Option.some.injEq] at h
      subst h
      exact ⟨store_wf d d1 key hh hw hs, fun x hx _ => store_keeps d d1 key hh x hw hs hx⟩
    | crash => simp [applyOp, hs] at h
  | remove key hh =>
    cases h
    exact ⟨remove_wf d key hh hw, fun x hx hne => remove_keeps d key hh x hw hx (hne key hh rfl).symm⟩

theorem applyOps_spec (ops : List DictOp) (d d' : Dict) (hw : d.WF) (h : applyOps d ops = some d') :
    d'.WF ∧ ∀ x, d.Holds x → (∀ key hh, .remove key hh ∈ ops → key ≠ x.key) → d'.Holds x := by
  fun_induction applyOps d ops with
  | case1 => cases h; exact ⟨hw, fun _ hx _ => hx⟩
  | case2 d op r d1 ho ih =>
    obtain ⟨hw1, h1⟩ := applyOp_spec d d1 op hw ho
    obtain ⟨hw2, h2⟩ := ih hw1 h
    exact ⟨hw2, fun x hx hno => h2 x (h1 x hx fun key hh e => hno key hh (e ▸ List.mem_cons_self))
      fun key hh hm => hno key hh (List.mem_cons_of_mem _ hm)⟩
  | case3 => cases h

/-- **Reachable tables.** Every table built from the empty one by any sequence of `store` and `remove`
    operations (none of which hit the 31-bit collision) is well-formed — so `scan_complete`,
    `scan_sound` and `scan_progress` apply to every table the emulator can be in between two calls. -/
theorem reachable_wf (ops : List DictOp) : ∀ (d d' : Dict), d.WF → applyOps d ops = some d' → d'.WF :=
  fun d d' hw h => (applyOps_spec ops d d' hw h).1

/-- an element stored once and never removed is held in every later table, whatever else is stored
    or removed, however often the table doubles or halves -/
theorem stored_element_stays (ops : List DictOp) (x : Item)
    (hnot : ∀ op ∈ ops, match op with | .remove key _ => key ≠ x.key | .store _ _ => True) :
    ∀ (d d' : Dict), d.WF → d.Holds x → applyOps d ops = some d' → d'.Holds x :=
  fun d d' hw hx h => (applyOps_spec ops d d' hw h).2 x hx fun _ _ hm => hnot _ hm

/-! ### the hash that places the elements (`sipHash.go`), as the source has it now -/

/-- The compress round of SipHash translated from the Go source by `tools/go2lean` on this run is the
    model's `Sip.round` (on which `sipHash`, `hash32` and with them every bucket position of the model's
    table are built), for every state of the four words. -/
theorem siphash_round_as_coded (s : Sip) :
    Go.sipRound s.v0.toBitVec s.v1.toBitVec s.v2.toBitVec s.v3.toBitVec =
      (s.round.v0.toBitVec, s.round.v1.toBitVec, s.round.v2.toBitVec, s.round.v3.toBitVec) := by
  unfold Go.sipRound Sip.round
  simp only [UInt64.toBitVec_add, UInt64.toBitVec_xor, toBitVec_rotl _ 13 13 51 (by decide) (by decide),
    toBitVec_rotl _ 32 32 32 (by decide) (by decide), toBitVec_rotl _ 16 16 48 (by decide) (by decide),
    toBitVec_rotl _ 21 21 43 (by decide) (by decide), toBitVec_rotl _ 17 17 47 (by decide) (by decide)]
  rfl

/-- `(*redisDict).hashToIndex` translated from the Go source on this run — mask with `bucketCount-1`, shift left by
    `32 - bitPos`, `bits.Reverse32` — is the model's `bucketOf k` on the low 32 bits of the hash, for every 64-bit
    hash and every table size `2^k`, `k ≤ 31`.  (`bitPosition`, a lookup in a map built at start-up, is the one
    external: the statement is for `bitPosition(2^k) = k`, which the `scan` tool's bucket-order comparison exercises.) -/
theorem hashToIndex_as_coded (h : BitVec 64) (k : Nat) (hk : k ≤ 31) :
    (Go.hashToIndex h (BitVec.ofNat 32 (2 ^ k)) (BitVec.ofNat 64 k)).toNat = bucketOf k (h.toNat % 2 ^ 32) := by
  unfold Go.hashToIndex bucketOf
  -- `Reverse32((hash & (2^k - 1)) << (32 - k))`; the shift moves the `k` bits to the top of the word
  rw [toNat_reverse, BitVec.toNat_shiftLeft, toNat_ofNat_sub 64 32 k (by omega) (by decide), rev_mod, Nat.shiftLeft_eq,
    BitVec.toNat_and, toNat_ofNat_sub 32 (2 ^ k) 1 (Nat.two_pow_pos k) (Nat.pow_lt_pow_right (by omega) (by omega)),
    Nat.and_two_pow_sub_one_eq_mod, BitVec.toNat_setWidth]
  have := rev_mul_two_pow k (32 - k) (h.toNat % 2 ^ 32 % 2 ^ k)
  rwa [show k + (32 - k) = 32 by omega] at this

/-- hence a key's bucket in the code is the bucket the model puts it in: `bucketOf k (hash32 key)` -/
theorem hashToIndex_of_key (key : Bytes) (k : Nat) (hk : k ≤ 31) :
    (Go.hashToIndex (sipHash key).toBitVec (BitVec.ofNat 32 (2 ^ k)) (BitVec.ofNat 64 k)).toNat = bucketOf k (hash32 key) := by
  rw [hashToIndex_as_coded _ k hk]; rfl

/-- non-vacuity: 16 buckets, hash 0b…0001 lands in bucket 8 (bit-reversed order), hash 0b…1111 in 15 -/
theorem hashToIndex_examples :
    Go.hashToIndex 1#64 16#32 4#64 = 8#32 ∧ Go.hashToIndex 0xffffffffffffffff#64 16#32 4#64 = 15#32 ∧
    Go.hashToIndex 0x1234567800000002#64 16#32 4#64 = 4#32 := by decide +kernel

/-- `isPowerOfTwo` as translated: true exactly on the powers of two (the table sizes of the dictionary) -/
theorem is_power_of_two_as_coded (n : BitVec 32) : Go.isPowerOfTwo n = true ↔ ∃ k, n.toNat = 2 ^ k := by
  unfold Go.isPowerOfTwo
  rw [← Nat.isPowerOfTwo, ← Nat.ne_zero_and_sub_one_eq_zero_iff_isPowerOfTwo, Bool.and_eq_true, beq_iff_eq, BitVec.ult,
    decide_eq_true_iff, ← BitVec.toNat_inj, BitVec.toNat_and, And.comm]
  show 0 < n.toNat ∧ _ = 0 ↔ _
  rw [Nat.pos_iff_ne_zero]
  refine and_congr_right fun h => ?_
  rw [BitVec.toNat_sub_of_le (by rw [BitVec.le_def]; exact Nat.pos_of_ne_zero h)]; rfl

theorem go_arith_translated_dict :
    ["isPowerOfTwo", "hashToIndex", "sipRound"].all (Go.translated.contains ·) = true := by decide

/-- the reference vector of SipHash-2-4 … with the zero key and the Go code's tail handling the model
    gives this value for the empty input and for "a" (also checked against `calcSipHash` by the `scan` tool) -/
theorem siphash_examples : sipHash [] = 0x1e924b9d737700d7 ∧ (sipHash [97]).toNat % 2 ^ 32 = hash32 [97] := by
  constructor
  · decide +kernel
  · rfl

end RedisEmu
