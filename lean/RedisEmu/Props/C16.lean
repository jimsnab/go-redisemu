import RedisEmu.Conc
import RedisEmu.LockFacts
/-
  C16 — data-race freedom (partial). The Lean part is the soundness of the lock discipline the code
  relies on: when mutexes are exclusive, two accesses made while holding a common mutex are separated
  by a release of that mutex by the first thread (hence ordered by happens-before: no data race). Which
  functions of the Go data layer hold the database mutex is extracted from /repo on every run (`LockFacts`,
  `data_layer_lock_discipline` below); single accesses are not. The `race` component runs a -race build
  of a workload that makes every pair of command classes concurrent and attributes every report.
-/
namespace RedisEmu

def stepHold (hold : Nat → Option Nat) : List Ev → (Nat → Option Nat)
  | [] => hold
  | .acq t m :: r => stepHold (fun x => if x = m then some t else hold x) r
  | .rel _ m :: r => stepHold (fun x => if x = m then none else hold x) r
  | .acc _ _ _ :: r => stepHold hold r

theorem stepHold_append (hold : Nat → Option Nat) (a b : List Ev) :
    stepHold hold (a ++ b) = stepHold (stepHold hold a) b := by
  induction a generalizing hold with
  | nil => rfl
  | cons e r ih => cases e <;> simp [stepHold, ih]

theorem wf_append (hold : Nat → Option Nat) (a b : List Ev) :
    WFFrom hold (a ++ b) ↔ WFFrom hold a ∧ WFFrom (stepHold hold a) b := by
  induction a generalizing hold with
  | nil => simp [WFFrom, stepHold]
  | cons e r ih =>
    cases e with
    | acq t m => simp [WFFrom, stepHold, ih, and_assoc]
    | rel t m => simp [WFFrom, stepHold, ih, and_assoc]
    | acc t l w => simp [WFFrom, stepHold, ih]

theorem held_until_released (m t : Nat) : ∀ (q : List Ev) (hold : Nat → Option Nat),
    WFFrom hold q → hold m = some t → (∀ e ∈ q, e ≠ .rel t m) → stepHold hold q m = some t
  | [], _, _, hm, _ => hm
  | .acc _ _ _ :: r, hold, hwf, hm, hnr =>
    held_until_released m t r hold hwf hm fun e he => hnr e (List.mem_cons_of_mem _ he)
  | .acq t' m' :: r, hold, hwf, hm, hnr => by
    -- `m` is held, so it is not the mutex acquired here
    have hmm : m ≠ m' := fun e => by have := hwf.1; rw [← e, hm] at this; cases this
    exact held_until_released m t r _ hwf.2 ((if_neg hmm).trans hm) fun e he => hnr e (List.mem_cons_of_mem _ he)
  | .rel t' m' :: r, hold, hwf, hm, hnr => by
    -- a release of `m` would be by its holder `t`
    have hmm : m ≠ m' := fun e => by
      have := hwf.1
      rw [← e, hm] at this
      cases this
      exact hnr _ List.mem_cons_self (e ▸ rfl)
    exact held_until_released m t r _ hwf.2 ((if_neg hmm).trans hm) fun e he => hnr e (List.mem_cons_of_mem _ he)

/-- **Lock discipline orders conflicting accesses.** In a well-formed trace, if thread `t1` accesses a
    location while holding mutex `m`, and later a different thread `t2` accesses it while holding the
    same `m`, then `t1` released `m` in between — the second access happens after the first in
    happens-before order, so the pair is not a data race. -/
theorem common_mutex_orders (p q r : List Ev) (t1 t2 l m : Nat) (w1 w2 : Bool) (hne : t1 ≠ t2)
    (hwf : WFFrom (fun _ => none) (p ++ .acc t1 l w1 :: q ++ .acc t2 l w2 :: r))
    (h1 : stepHold (fun _ => none) p m = some t1)
    (h2 : stepHold (fun _ => none) (p ++ .acc t1 l w1 :: q) m = some t2) :
    .rel t1 m ∈ q := by
  -- otherwise t1 would still hold m at the second access
  refine Decidable.byContradiction fun h => hne (Option.some.inj ?_)
  rw [wf_append, wf_append] at hwf
  rw [← h2, stepHold_append]
  refine (held_until_released m t1 _ _ hwf.1.2 h1 fun e he => ?_).symm
  rintro rfl
  rcases List.mem_cons.mp he with e | e
  · cases e
  · exact h e

/-- … and while the first thread is inside its critical section no other thread's access made under
    the same mutex can appear at all -/
theorem no_foreign_access_inside (m t : Nat) (q : List Ev) (hold : Nat → Option Nat)
    (hwf : WFFrom hold q) (hm : hold m = some t) (hnr : ∀ e ∈ q, e ≠ .rel t m) :
    ∀ (q1 q2 : List Ev), q = q1 ++ q2 → stepHold hold q1 m = some t := by
  intro q1 q2 he
  subst he
  rw [wf_append] at hwf
  exact held_until_released m t q1 hold hwf.1 hm (fun e h => hnr e (List.mem_append_left _ h))

/-! ### what the code does: the locking facts extracted from the sources (regenerated on every run)

`RedisEmu.LockFacts` is written by `tools/lockfacts` (go/ast) from /repo's working tree before this file
is compiled. The theorem below is therefore re-checked against the current sources: it fails to compile
as soon as some function touches the state a database lock protects (`ds.data`, the object counter, the
wait table, or any function that needs the lock) before taking the lock, or without holding it until it
returns, unless every one of its callers holds the lock at the call. -/

/-- every function of the data layer takes the database lock before its first use of the protected
    state and holds it until it returns, or is only ever called with the lock held -/
theorem data_layer_lock_discipline :
    lockFacts.all (fun f => f.2 == LockKind.locksUntilReturn || f.2 == LockKind.needsLock) = true := by
  decide

/-- non-vacuity: the extractor found the data layer -/
theorem lock_facts_cover_the_commands :
    80 ≤ lockFacts.length ∧ lockFacts.any (fun f => f.1 == "(dataStoreCommand).lmove") = true := by
  -- 80 rows are counted, not all: `decide` on the length of the whole table goes deeper with every row
  have hlen : (lockFacts.take 80).length = 80 := by decide
  -- the name is found among the names by its literal text, wherever it stands and whatever kind it has:
  -- evaluating `any` compares strings, which is slow
  have hmem : "(dataStoreCommand).lmove" ∈ lockFacts.map (·.1) := by
    simp only [lockFacts, List.map_cons, List.mem_cons, true_or, or_true]
  exact ⟨by rw [List.length_take] at hlen; omega, by simpa using hmem⟩

/-! ### locking several data stores (FLUSHALL, EXEC with FLUSHALL / SELECT): no deadlock -/

/-- under the discipline at most one thread waits for a data store while it holds one: such a thread has the gate -/
theorem one_holds_and_waits (ts : List LockTh) (h : GateDiscipline ts) :
    ts.Pairwise fun a b => ¬ ((a.waits.isSome = true ∧ a.held ≠ []) ∧ (b.waits.isSome = true ∧ b.held ≠ [])) :=
  h.oneGate.imp_of_mem fun ha hb hn ⟨⟨wa, ha'⟩, wb, hb'⟩ =>
    hn ⟨h.holdAndWait _ ha wa ha', h.holdAndWait _ hb wb hb'⟩

/-- **No deadlock between threads that lock several data stores.** Under the discipline no two distinct threads
    of a system can both be waiting for a data store the next one in a cycle holds — so there is no cycle of
    waiting threads at all: take any two neighbours `a → b` of a cycle; somebody waits for `a` too. -/
theorem no_deadlock_cycle (ts : List LockTh) (h : GateDiscipline ts) (i j : Nat) (hij : i < j)
    (a b : LockTh) (ha : ts[i]? = some a) (hb : ts[j]? = some b)
    (x y : LockTh)                       -- x waits for a, b waits for y: a and b are members of a cycle
    (hxa : x.waitsFor a) (hab : a.waitsFor b) (hby : b.waitsFor y) : False := by
  -- `a` holds what `x` waits for, `b` holds what `a` waits for, and both wait themselves
  obtain ⟨r1, _, hr1⟩ := hxa
  obtain ⟨r2, hw2, hr2⟩ := hab
  obtain ⟨r3, hw3, _⟩ := hby
  obtain ⟨hi, rfl⟩ := List.getElem?_eq_some_iff.mp ha
  obtain ⟨hj, rfl⟩ := List.getElem?_eq_some_iff.mp hb
  exact List.pairwise_iff_getElem.mp (one_holds_and_waits ts h) i j hi hj hij
    ⟨⟨by simp [hw2], List.ne_nil_of_mem hr1⟩, by simp [hw3], List.ne_nil_of_mem hr2⟩

/-- the history of D91 does not satisfy the discipline: the EXEC (data store 1 held, waiting for 0) has no gate -/
theorem d91_breaks_the_discipline :
    ¬ GateDiscipline [{ held := [1], waits := some 0, gate := false }, { held := [0], waits := some 1, gate := true }] := by
  intro h
  have := h.holdAndWait { held := [1], waits := some 0, gate := false } (by simp) (by simp) (by simp)
  simp at this

end RedisEmu
