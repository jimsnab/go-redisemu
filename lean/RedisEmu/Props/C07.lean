import RedisEmu.Props.C10
/-
  C07 — expiry (family `expiry` of the correspondence run).
  Time is the explicit argument `c.now` (nanoseconds); nothing in the model reads a clock.
-/
namespace RedisEmu

/-! ### a key whose deadline has passed is a missing key for the lookup every command uses -/

theorem live_after_deadline (db : Db) (now d : Int) (k : Bytes) (e : Entry)
    (h : db.raw k = some e) (he : e.exp = some d) (hpast : now > d) : db.live now k = none := by
  unfold Db.live Entry.expired
  simp [h, he, hpast]

theorem live_before_deadline (db : Db) (now d : Int) (k : Bytes) (e : Entry)
    (h : db.raw k = some e) (he : e.exp = some d) (hnot : now ≤ d) : db.live now k = some e := by
  unfold Db.live Entry.expired
  have : ¬ (now > d) := by omega
  simp [h, he, this]

theorem live_no_deadline (db : Db) (now : Int) (k : Bytes) (e : Entry)
    (h : db.raw k = some e) (he : e.exp = none) : db.live now k = some e := by
  unfold Db.live Entry.expired
  simp [h, he]

/-- removing the expired object changes nothing any `live` lookup can see -/
theorem live_purge (db : Db) (now : Int) (k k' : Bytes) (e : Entry)
    (h : db.raw k = some e) (hexp : e.expired now = true) (hu : (db.keys.map (·.1)).Nodup) :
    ({ db with keys := aerase k db.keys } : Db).live now k' = db.live now k' := by
  have hd : ({ db with keys := aerase k db.keys } : Db).live now k' = (db.del k).live now k' := by
    unfold Db.del; rw [h]; rfl
  rw [hd, live_del db now k k' hu]
  split
  · cases eq_of_beq ‹_›; unfold Db.live; rw [h]; exact (if_pos hexp).symm
  · rfl

/-- reads on an expired key answer exactly as on a missing key -/
theorem get_expired (c : Ctx) (db : Db) (k : Bytes) (h : db.live c.now k = none) :
    (cmdGet c db k).reply = .nil ∧ (cmdExists c db [k]).reply = .int 0 ∧
    (cmdType c db k).reply = .simple (sb "none") ∧ (cmdStrlen c db k).reply = .int 0 ∧
    (cmdTtl c db k .ttl).reply = .int (-2) ∧ (cmdLLen c db k).reply = .int 0 ∧
    (cmdHLen c db k).reply = .int 0 ∧ (cmdSCard c db k).reply = .int 0 := by
  unfold cmdGet cmdExists cmdType cmdStrlen cmdTtl cmdLLen cmdHLen cmdSCard listOf hashOf setOf
  simp [h, R.ok, vInt]

/-- writes on an expired key start from nothing: INCR answers the increment, APPEND the length
    of the argument, RPUSH the number of pushed elements -/
theorem writes_on_expired (c : Ctx) (db : Db) (k v : Bytes) (d : Int) (h : db.live c.now k = none) :
    (cmdIncrBy c db k d).reply = .int d ∧ (cmdAppend c db k v).reply = vInt v.length ∧
    (cmdPush c db k [v] false false).reply = .int 1 := by
  unfold cmdIncrBy cmdAppend setKey cmdPush listOf
  simp [h, R.ok, vInt]

theorem ttl_missing (c : Ctx) (db : Db) (k : Bytes) (kind : TtlKind) (h : db.live c.now k = none) :
    (cmdTtl c db k kind).reply = .int (-2) := by
  unfold cmdTtl; simp [h, R.ok]

theorem ttl_persistent (c : Ctx) (db : Db) (k : Bytes) (kind : TtlKind) (e : Entry)
    (h : db.live c.now k = some e) (he : e.exp = none) : (cmdTtl c db k kind).reply = .int (-1) := by
  unfold cmdTtl; simp [h, he, R.ok]

/-- PEXPIRETIME reports the deadline that was set, in milliseconds -/
theorem pexpiretime_reports (c : Ctx) (db : Db) (k : Bytes) (e : Entry) (d : Int)
    (h : db.live c.now k = some e) (he : e.exp = some d) :
    (cmdTtl c db k .pexpiretime).reply = .int (d / msNs) := by
  unfold cmdTtl; simp [h, he]

/-- without an option the deadline becomes exactly the requested one -/
theorem expire_sets (c : Ctx) (db : Db) (k : Bytes) (e : Entry) (dl : Int)
    (h : db.live c.now k = some e) :
    (cmdExpireAt c db k dl .none).reply = .int 1 ∧
    ((cmdExpireAt c db k dl .none).db.raw k).map (·.exp) = some (some dl) := by
  unfold cmdExpireAt
  rw [h]
  refine ⟨rfl, ?_⟩
  show Option.map _ ((dirtyUnlessQuirk c _).raw k) = _
  rw [raw_dirtyUnlessQuirk, raw_poke_self]
  rfl

/-- NX refuses exactly when the key already has a deadline; XX exactly when it has none;
    GT on a key without deadline never sets; LT on a key without deadline always sets;
    GT / LT on a key with a deadline set exactly when the new one is later / earlier -/
theorem expire_option_table (c : Ctx) (db : Db) (k : Bytes) (e : Entry) (dl : Int)
    (h : db.live c.now k = some e) :
    ((cmdExpireAt c db k dl .nx).reply.int? = some 0 ↔ e.exp.isSome = true) ∧
    ((cmdExpireAt c db k dl .xx).reply.int? = some 0 ↔ e.exp.isNone = true) ∧
    (e.exp = none → (cmdExpireAt c db k dl .gt).reply.int? = some 0) ∧
    (e.exp = none → (cmdExpireAt c db k dl .lt).reply.int? = some 1) ∧
    (∀ old, e.exp = some old → ((cmdExpireAt c db k dl .gt).reply.int? = some 1 ↔ dl > old)) ∧
    (∀ old, e.exp = some old → ((cmdExpireAt c db k dl .lt).reply.int? = some 1 ↔ dl < old)) := by
  unfold cmdExpireAt
  simp only [h]
  refine ⟨?_, ?_, ?_, ?_, ?_, ?_⟩
  · cases he : e.exp <;> simp [R.ok, Value.int?]
  · cases he : e.exp <;> simp [R.ok, Value.int?]
  · intro he; simp [he, R.ok, Value.int?]
  · intro he; simp [he, R.ok, Value.int?]
  · intro old he; by_cases hc : dl > old <;> simp [he, hc, R.ok, Value.int?]
  · intro old he; by_cases hc : dl < old <;> simp [he, hc, R.ok, Value.int?]

/-- plain SET replaces the value and clears the deadline; with KEEPTTL it keeps it -/
theorem set_clears_keepttl_keeps (c : Ctx) (db : Db) (k v : Bytes) (e : Entry)
    (h : db.live c.now k = some e) :
    ((cmdSet c db k v {} false).db.raw k).map (·.exp) = some none ∧
    ((cmdSet c db k v { exp := some .keepttl } false).db.raw k).map (·.exp) = some e.exp := by
  unfold cmdSet setKey
  simp [h, ExpArg.invalid, Db.put, Db.raw, R.ok]

/-- APPEND keeps the deadline (with the repaired behaviour, quirk off); D04 is the quirk on -/
theorem append_keeps_deadline (c : Ctx) (db : Db) (k v b : Bytes) (e : Entry)
    (hq : c.q.appendDropsTtl = false)
    (h : db.live c.now k = some e) (hv : e.val = .str b) :
    ((cmdAppend c db k v).db.raw k).map (·.exp) = some e.exp := by
  unfold cmdAppend setKey
  simp [h, hv, hq, Db.put, Db.raw, R.ok]

theorem append_drops_deadline_witness :
    let c : Ctx := { q := { Quirks.none with appendDropsTtl := true }, now := 0 }
    let db := ({} : Db).put [97] (.str [120]) (some 100)
    ((cmdAppend c db [97] [121]).db.raw [97]).map (·.exp) = some none := by
  decide +kernel

theorem incrby_keeps_deadline (c : Ctx) (db : Db) (k b : Bytes) (e : Entry) (v d : Int)
    (h : db.live c.now k = some e) (hv : e.val = .str b) (hp : parseInt64 b = some v)
    (hgo : goAddOverflow v d = false) :
    ((cmdIncrBy c db k d).db.raw k).map (·.exp) = some e.exp := by
  unfold cmdIncrBy
  simp [h, hv, hp, hgo, R.ok, Db.put, Db.raw]

/-- PERSIST removes the deadline and answers 1 exactly when there was one -/
theorem persist_spec (c : Ctx) (db : Db) (k : Bytes) (e : Entry) (h : db.live c.now k = some e) :
    ((cmdPersist c db k).reply.int? = some 1 ↔ e.exp.isSome = true) := by
  unfold cmdPersist
  cases he : e.exp <;> simp [h, he, R.ok, Value.int?]

/-! ## expired = missing, for every command and every history

  The lemmas above are about the lookup and about single commands. What follows shows that *no* command
  can tell an expired object from a missing key: commands see a database only through its live objects
  (`Sim`), every command function respects that (`CmdFn.obs`), so does every command on the whole server
  (`runCmd_obs`), and so does every history (`expired_is_missing`). -/

/-- two databases that no command can tell apart at the instant `now`: the same live objects under
    the same keys (whatever expired objects either of them still stores), the same version counter -/
structure Sim (now : Int) (a b : Db) : Prop where
  ua : a.Uniq
  ub : b.Uniq
  next : a.nextId = b.nextId
  live : ∀ k, a.live now k = b.live now k

/-- `iteInduction` for two `if`s on one condition: a relation holds of them as soon as it holds branch by
    branch. This is how two runs of the same code are walked together: no case split of the goal, no look at
    the condition. -/
theorem ite_rel {α : Sort _} {r : α → α → Prop} {p : Prop} [Decidable p] {x y x' y' : α}
    (h1 : p → r x x') (h2 : ¬p → r y y') : r (if p then x else y) (if p then x' else y') := by
  split
  · exact h1 ‹_›
  · exact h2 ‹_›

structure SimP {α} (now : Int) (x y : Db × α) : Prop where
  fst : Sim now x.1 y.1
  snd : x.2 = y.2

theorem sim_refl (now : Int) (a : Db) (h : a.Uniq) : Sim now a a := ⟨h, h, rfl, fun _ => rfl⟩

section mutators
variable {now : Int} {a b : Db} (h : Sim now a b)
include h

theorem sim_put (k : Bytes) (v : Val) (x : Option Int) : Sim now (a.put k v x) (b.put k v x) :=
  ⟨uniq_put a k v x h.ua, uniq_put b k v x h.ub, congrArg (· + 1) h.next,
    fun k' => by rw [live_put, live_put, h.next, h.live k']⟩

theorem sim_poke (k : Bytes) (e : Entry) : Sim now (a.poke k e) (b.poke k e) :=
  ⟨uniq_poke a k e h.ua, uniq_poke b k e h.ub, h.next, fun k' => by rw [live_poke, live_poke, h.live k']⟩

theorem sim_del (k : Bytes) : Sim now (a.del k) (b.del k) :=
  ⟨uniq_del a k h.ua, uniq_del b k h.ub, by rw [nextId_del, nextId_del, h.next],
    fun k' => by rw [live_del a now k k' h.ua, live_del b now k k' h.ub, h.live k']⟩

theorem sim_setDirty : Sim now a.setDirty b.setDirty := ⟨h.ua, h.ub, h.next, h.live⟩

theorem sim_dirtyUnlessQuirk (c : Ctx) : Sim now (dirtyUnlessQuirk c a) (dirtyUnlessQuirk c b) :=
  ite_rel (fun _ => h) fun _ => sim_setDirty h

theorem sim_bump (c : Ctx) (e : Entry) : SimP now (bump c a e) (bump c b e) :=
  ite_rel (fun _ => ⟨h, rfl⟩) fun _ => ⟨⟨h.ua, h.ub, congrArg (· + 1) h.next, h.live⟩, by rw [h.next]⟩

theorem sim_update (k : Bytes) (e : Entry) (v : Val) : Sim now (a.update k e v) (b.update k e v) :=
  ite_rel (fun _ => sim_setDirty (sim_del h k)) fun _ => sim_setDirty (sim_poke h k _)

theorem sim_upd (c : Ctx) (k : Bytes) (e : Entry) (v : Val) : Sim now (upd c a k e v) (upd c b k e v) := by
  rw [upd_eq, upd_eq, (sim_bump h c e).snd]
  exact sim_update (sim_bump h c e).fst k _ v

theorem putAll_sim (kvs : List (Bytes × Bytes)) : Sim now (putAll a kvs) (putAll b kvs) := by
  induction kvs generalizing a b with
  | nil => exact h
  | cons p r ih => exact ih (sim_put h ..)
end mutators

/-- two outcomes no client can tell apart: same reply, same wake-ups owed, and databases that stay
    indistinguishable -/
structure Obs (now : Int) (r r' : R) : Prop where
  reply : r.reply = r'.reply
  hint : r.hint = r'.hint
  crash : r.crash = r'.crash
  pushed : r.pushed = r'.pushed
  db : Sim now r.db r'.db

/-! What a command function reads of its database, the same on both sides. -/
section reads
variable {c : Ctx} {a b : Db} (h : Sim c.now a b)
include h

theorem listOf_sim (k : Bytes) : listOf c a k = listOf c b k := by unfold listOf; rw [h.live]
theorem hashOf_sim (k : Bytes) : hashOf c a k = hashOf c b k := by unfold hashOf; rw [h.live]
theorem setOf_sim (k : Bytes) : setOf c a k = setOf c b k := by unfold setOf; rw [h.live]
theorem setOperand_sim (k : Bytes) : setOperand c a k = setOperand c b k := by unfold setOperand; rw [setOf_sim h]
theorem strValue_sim (k : Bytes) : strValue c a k = strValue c b k := by unfold strValue; rw [h.live]
theorem sortSource_sim (k : Bytes) : sortSource c a k = sortSource c b k := by unfold sortSource; rw [h.live]
theorem srcLookup_sim (hr : c.q.rawLookupSeesExpired = false) (k : Bytes) : srcLookup c a k = srcLookup c b k := by
  unfold srcLookup; simp only [hr, Bool.false_eq_true, ↓reduceIte]; exact h.live k

theorem setKey_sim (k v : Bytes) (o : SetOpts) (x y : Bool) : SimP c.now (setKey c a k v o x y) (setKey c b k v o x y) := by
  unfold setKey
  rw [h.live]
  -- both sides are now the same tree of `if`s and `match`es; its leaves hand on the database or one `put` into it
  repeat' first
    | (with_reducible apply ite_rel)
    | intro _
    | (with_reducible exact ⟨h, rfl⟩)
    | (with_reducible exact ⟨sim_put h _ _ _, rfl⟩)
    | extract_lets
    | split

theorem setAlgebra_go_sim (rest d : List Bytes) : setAlgebra.go c a rest d = setAlgebra.go c b rest d := by
  induction rest generalizing d with
  | nil => rfl
  | cons k r ih => unfold setAlgebra.go; simp only [setOf_sim h, ih]
theorem setAlgebra_sim (op : SetOp) (f : Bytes) (r : List Bytes) : setAlgebra c a op f r = setAlgebra c b op f r := by
  unfold setAlgebra
  simp only [setOf_sim h, setOperand_sim h, setAlgebra_go_sim h]
theorem sintercard_collect_sim (ks : List Bytes) (acc : List (List Bytes)) :
    cmdSInterCard.collect c a ks acc = cmdSInterCard.collect c b ks acc := by
  induction ks generalizing acc with
  | nil => rfl
  | cons k r ih => unfold cmdSInterCard.collect; simp only [setOf_sim h, ih]

/-- all of it as one set of rewrite rules -/
theorem Sim.reads (hr : c.q.rawLookupSeesExpired = false) :
    (∀ k, a.live c.now k = b.live c.now k) ∧ (∀ k, listOf c a k = listOf c b k) ∧
    (∀ k, hashOf c a k = hashOf c b k) ∧ (∀ k, setOf c a k = setOf c b k) ∧
    (∀ k, setOperand c a k = setOperand c b k) ∧ (∀ k, strValue c a k = strValue c b k) ∧
    (∀ k, sortSource c a k = sortSource c b k) ∧ (∀ k, srcLookup c a k = srcLookup c b k) ∧
    (∀ op f r, setAlgebra c a op f r = setAlgebra c b op f r) ∧
    (∀ ks acc, cmdSInterCard.collect c a ks acc = cmdSInterCard.collect c b ks acc) ∧
    (∀ e, (bump c a e).2 = (bump c b e).2) ∧ (∀ k v o x y, (setKey c a k v o x y).2 = (setKey c b k v o x y).2) :=
  ⟨h.live, listOf_sim h, hashOf_sim h, setOf_sim h, setOperand_sim h, strValue_sim h, sortSource_sim h,
    srcLookup_sim h hr, setAlgebra_sim h, sintercard_collect_sim h, fun e => (sim_bump h c e).snd,
    fun k v o x y => (setKey_sim h k v o x y).snd⟩
end reads

theorem Obs.lit {now : Int} {d d' : Db} {v : Value} {hn : Match} {cr : Option String} {p : List (Bytes × Nat)}
    (hs : Sim now d d') : Obs now ⟨d, v, hn, cr, p⟩ ⟨d', v, hn, cr, p⟩ := ⟨rfl, rfl, rfl, rfl, hs⟩

theorem Obs.ok {now : Int} {d d' : Db} {v : Value} (hs : Sim now d d') : Obs now (R.ok d v) (R.ok d' v) := Obs.lit hs

/-- `Sim now d d'` where `d` and `d'` are spelled with the same mutators over `Sim` databases: one rule per mutator,
    matched at reducible transparency; a database that `bump` or `setKey` handed on is the first component of a pair
    (`SimP.fst`, then `sim_bump`, `setKey_sim`); `let`s are unfolded where no rule fits yet -/
macro "simulation" : tactic => `(tactic| (repeat (with_reducible first
  | assumption
  | apply sim_put
  | apply sim_del
  | apply sim_setDirty
  | apply sim_upd
  | apply sim_poke
  | apply sim_dirtyUnlessQuirk
  | apply SimP.fst
  | apply sim_bump
  | apply setKey_sim
  | apply putAll_sim
  | (apply ite_rel <;> intro _)
  | (dsimp +zetaDelta only [put_spelled])
  | split)))

/-- `Obs` of two runs of a command function. Every read of the first database is rewritten into the same read
    of the second (`Sim.reads`; only the first run, `arg 2`, has reads to rewrite), so both runs take the same
    path. The common case tree is then walked down to the leaves, where the outcomes differ in the database only
    (`simulation`): an `if` goes by `ite_rel`, a `match` by `split`. The last `assumption` is for a recursive call
    (LMPOP, BLPOP: the induction hypothesis). -/
macro "obs" : tactic => `(tactic| (
  try (conv => arg 2; simp -zeta only [Sim.reads ‹Sim _ _ _› ‹_ = false›])
  repeat' (first
  | ((with_reducible apply ite_rel) <;> intro _)
  | ((with_reducible first | apply Obs.ok | apply Obs.lit) <;> first | assumption | simulation)
  | split
  | assumption)))

section
variable (c : Ctx) (a b' : Db) (k k2 : Bytes) (i j : Int) (b b2 : Bool) (ks : List Bytes) (oi : Option Int) (n : Nat)
  (h : Sim c.now a b') (hr : c.q.rawLookupSeesExpired = false)
include h hr

theorem incrby_obs : Obs c.now (cmdIncrBy c a k i) (cmdIncrBy c b' k i) := by unfold cmdIncrBy; obs

theorem decrby_obs : Obs c.now (cmdDecrBy c a k i) (cmdDecrBy c b' k i) :=
  ite_rel (fun _ => Obs.ok h) fun _ => incrby_obs c a b' k _ h hr

theorem pop_obs : Obs c.now (cmdPop c a k oi b) (cmdPop c b' k oi b) := by
  have go n multi : Obs c.now (cmdPop.go c a k b n multi) (cmdPop.go c b' k b n multi) := by
    unfold cmdPop.go; obs
  cases oi with
  | none => exact go ..
  | some n => exact ite_rel (fun _ => Obs.ok h) fun _ => go ..

theorem lmpop_obs : Obs c.now (cmdLMPop c a ks b n) (cmdLMPop c b' ks b n) := by
  unfold cmdLMPop
  induction ks with
  | nil => exact Obs.ok h
  | cons x r ih => unfold cmdLMPop.go; obs

theorem bpop_obs : Obs c.now (runCmd.go c b a ks) (runCmd.go c b b' ks) := by
  induction ks with
  | nil => exact Obs.ok h
  | cons x r ih => unfold runCmd.go; obs

theorem bitfieldParsed_obs (ps : List BfParsed) : Obs c.now (cmdBitfieldParsed c a k ps) (cmdBitfieldParsed c b' k ps) := by
  unfold cmdBitfieldParsed; obs

theorem bitfield_obs (ops : List BfOp) : Obs c.now (cmdBitfield c a k ops) (cmdBitfield c b' k ops) := by
  unfold cmdBitfield
  split
  · exact Obs.ok h
  · exact bitfieldParsed_obs c a b' k h hr _

/-- SETBIT is BITFIELD with one SET of one bit, the reply unwrapped -/
theorem setbit_obs : Obs c.now (cmdSetBit c a k i j) (cmdSetBit c b' k i j) := by
  refine ite_rel (fun _ => Obs.ok h) fun _ => ite_rel (fun _ => Obs.ok h) fun _ => ?_
  have hb := bitfieldParsed_obs c a b' k h hr [{ kind := .set, signed := false, width := 1, off := i, value := j, ov := .wrap }]
  dsimp only
  rw [hb.reply]
  split
  · exact ⟨rfl, hb.hint, hb.crash, hb.pushed, hb.db⟩
  · exact hb

omit hr in
theorem sortFinish_obs (store : Option Bytes) (out : List Value) (hint : Match) :
    Obs c.now (sortFinish a store out hint) (sortFinish b' store out hint) := by
  unfold sortFinish; obs

omit hr in
theorem sort_obs (by_ : Option Bytes) (limit : Option (Int × Int)) (gets : List Bytes) (store : Option Bytes) :
    Obs c.now (cmdSort c a k by_ limit gets b b2 store) (cmdSort c b' k by_ limit gets b b2 store) := by
  have hc xs isSet x : sortCompute c a xs isSet by_ limit gets b b2 x = sortCompute c b' xs isSet by_ limit gets b b2 x := by
    unfold sortCompute; rw [show strValue c a = strValue c b' from funext (strValue_sim h)]
  unfold cmdSort
  simp only [sortSource_sim h, hc]
  split
  · exact Obs.ok h
  · exact sortFinish_obs c a b' h ..
  · split
    · exact Obs.ok h
    · exact sortFinish_obs c a b' h ..

omit hr in
/-- DEL / UNLINK: the fold over the keys keeps the databases indistinguishable and the counts equal -/
theorem del_obs : Obs c.now (cmdDel c a ks b) (cmdDel c b' ks b) := by
  unfold cmdDel
  extract_lets step
  have hf : SimP c.now (ks.foldl step (a, 0)) (ks.foldl step (b', 0)) := by
    refine List.foldl_rel (r := SimP c.now) ⟨h, rfl⟩ fun k _ x y ⟨h1, h2⟩ => ?_
    simp only [h1.live k, h2]
    split
    · exact ite_rel (fun _ => ⟨sim_del h1 _, rfl⟩) fun _ => ⟨sim_poke h1 _ _, rfl⟩
    · exact ite_rel (fun _ => ⟨sim_del h1 _, rfl⟩) fun _ => ⟨h1, rfl⟩
  dsimp only
  rw [hf.snd]
  exact Obs.ok hf.fst

omit hr in
/-- LMOVE between two keys looks at the destination a second time, raw: it is there on both sides, created
    a step before or live from the start. -/
theorem lmove_obs : Obs c.now (cmdLMove c a k k2 b b2) (cmdLMove c b' k k2 b b2) := by
  unfold cmdLMove
  rw [listOf_sim h k, listOf_sim h k2]
  split
  · exact Obs.ok h
  · exact Obs.ok h
  · split
    · exact Obs.ok h
    · rename_i se sl _ _ dstInfo hdst
      extract_lets elem srest A A2 B B2
      have hA : Sim c.now A B := by simp only [A, B]; split <;> simulation
      have hA2 : Sim c.now A2 B2 := sim_upd hA ..
      clear_value elem
      split
      · exact Obs.ok h
      · refine ite_rel (fun _ => by obs) fun hne => ?_
        have hraw : A2.raw k2 = B2.raw k2 := by
          rw [raw_upd_ne _ _ _ _ _ _ (by simpa using hne), raw_upd_ne _ _ _ _ _ _ (by simpa using hne)]
          cases dstInfo with
          | none => exact (raw_put_self ..).trans (h.next ▸ (raw_put_self ..).symm)
          | some p =>
            have hl := (listOf_live hdst).1
            exact (live_some_raw ((h.live k2).trans hl)).1.trans (live_some_raw hl).1.symm
        rw [hraw]
        split
        · dsimp only
          rw [(sim_bump hA2 ..).snd]
          exact Obs.lit (sim_setDirty (sim_poke (sim_bump hA2 ..).fst ..))
        · exact Obs.lit h
end

/-- the database with every expired object removed (what an eager expiry would leave) -/
def Db.purge (now : Int) (db : Db) : Db := { db with keys := db.keys.filter fun p => !p.2.expired now }

theorem uniq_purge (now : Int) (db : Db) (hu : db.Uniq) : (db.purge now).Uniq :=
  hu.sublist (List.filter_sublist.map _)

theorem raw_purge (now : Int) (db : Db) (hu : db.Uniq) (k : Bytes) : (db.purge now).raw k = db.live now k := by
  refine Option.ext fun e => ?_
  rw [live_eq_filter, Option.filter_eq_some_iff, Db.raw, Db.raw, alookup_eq_some_iff (uniq_purge now db hu),
    alookup_eq_some_iff hu]
  exact List.mem_filter

theorem live_purge_eq (now : Int) (db : Db) (hu : db.Uniq) (k : Bytes) : (db.purge now).live now k = db.live now k := by
  rw [live_eq_filter, raw_purge now db hu, live_eq_filter, Option.filter_filter]
  simp only [Bool.and_self]

theorem sim_purge (now : Int) (db : Db) (hu : db.Uniq) : Sim now (db.purge now) db :=
  ⟨uniq_purge now db hu, hu, rfl, live_purge_eq now db hu⟩

theorem purge_all_live (now : Int) (db : Db) (p : Bytes × Entry) (hp : p ∈ (db.purge now).keys) : p.2.expired now = false := by
  simpa [Db.purge] using (List.mem_filter.mp hp).2

theorem mem_liveKeys (db : Db) (now : Int) (hu : db.Uniq) (k : Bytes) :
    k ∈ db.liveKeys now ↔ ∃ e, db.live now k = some e := by
  simp only [← raw_purge now db hu, Db.raw, alookup_eq_some_iff (uniq_purge now db hu)]
  exact List.mem_map.trans ⟨fun ⟨p, hp, hk⟩ => ⟨p.2, hk ▸ hp⟩, fun ⟨e, he⟩ => ⟨(k, e), he, rfl⟩⟩

theorem nodup_liveKeys (db : Db) (now : Int) (hu : db.Uniq) : (db.liveKeys now).Nodup :=
  hu.sublist (List.filter_sublist.map _)

theorem liveKeys_perm {now : Int} {a b : Db} (h : Sim now a b) : (a.liveKeys now).Perm (b.liveKeys now) := by
  rw [List.perm_ext_iff_of_nodup (nodup_liveKeys a now h.ua) (nodup_liveKeys b now h.ub)]
  intro k
  simp only [mem_liveKeys a now h.ua, mem_liveKeys b now h.ub, h.live]

/-- DBSIZE counts the live keys: the same number on both sides -/
theorem liveKeys_length_sim {now : Int} {a b : Db} (h : Sim now a b) :
    (a.liveKeys now).length = (b.liveKeys now).length :=
  (liveKeys_perm h).length_eq

/-- two servers that differ at most in what expired objects their databases still store -/
structure SimS (now : Int) (s s' : State) : Prop where
  sessions : s.sessions = s'.sessions
  table : s.table = s'.table
  nextRef : s.nextRef = s'.nextRef
  refs : s.heap.map (·.1) = s'.heap.map (·.1)
  dbs : ∀ r, Sim now (s.getDb r) (s'.getDb r)

structure ObsOut (now : Int) (o o' : Out) : Prop where
  reply : o.reply = o'.reply
  hint : o.hint = o'.hint
  crash : o.crash = o'.crash
  pushed : o.pushed = o'.pushed
  judged : o.judged = o'.judged
  st : SimS now o.st o'.st

theorem ObsOut.lit {now : Int} {s s' : State} {v : Value} {hn : Match} {cr : Option String}
    {p : List (Nat × Bytes × Nat)} {j : Bool} (hs : SimS now s s') :
    ObsOut now ⟨s, v, hn, cr, p, j⟩ ⟨s', v, hn, cr, p, j⟩ := ⟨rfl, rfl, rfl, rfl, rfl, hs⟩

section
variable {now : Int} {s s' : State} (hs : SimS now s s')
include hs

theorem simS_setDb (ref : Nat) {d d' : Db} (hd : Sim now d d') : SimS now (s.setDb ref d) (s'.setDb ref d') := by
  refine ⟨hs.sessions, hs.table, hs.nextRef, by rw [refs_setDb, refs_setDb, hs.refs], fun r => ?_⟩
  cases e : ref == r
  · rw [getDb_setDb_ne _ _ _ _ e, getDb_setDb_ne _ _ _ _ e]; exact hs.dbs r
  · cases eq_of_beq e; rw [getDb_setDb_self, getDb_setDb_self]; exact hd

theorem session_simS (conn : Nat) : s.session conn = s'.session conn := by
  unfold State.session; rw [hs.sessions]

theorem simS_setSession (conn : Nat) (x : Session) : SimS now (s.setSession conn x) (s'.setSession conn x) :=
  ⟨by unfold State.setSession; rw [hs.sessions], hs.table, hs.nextRef, hs.refs, hs.dbs⟩

theorem simS_tableRef (i : Nat) : SimS now (s.tableRef i).1 (s'.tableRef i).1 ∧ (s.tableRef i).2 = (s'.tableRef i).2 := by
  have hd r : Sim now ((s.tableRef i).1.getDb r) ((s'.tableRef i).1.getDb r) := by
    rw [getDb_tableRef, getDb_tableRef]; exact hs.dbs r
  unfold State.tableRef at hd ⊢
  rw [hs.table] at hd ⊢
  generalize s'.table.find? (·.1 == i) = o at hd ⊢
  cases o with
  | some p => exact ⟨hs, rfl⟩
  | none =>
    exact ⟨⟨hs.sessions, by rw [hs.nextRef], congrArg (· + 1) hs.nextRef,
      by dsimp only; rw [List.map_append, List.map_append, hs.refs, hs.nextRef], hd⟩, hs.nextRef⟩
end

/-- a flushed database keeps its version counter only -/
theorem sim_flushed {now : Int} {a b : Db} (h : Sim now a b) : Sim now (flushed a) (flushed b) :=
  ⟨uniq_empty, uniq_empty, h.next, fun _ => rfl⟩

theorem onDb_obs {now : Int} {s s' : State} (hs : SimS now s s') (ref : Nat) (f : Db → R)
    (hf : ∀ a b, Sim now a b → Obs now (f a) (f b)) : ObsOut now (onDb s ref f) (onDb s' ref f) := by
  have h := hf _ _ (hs.dbs ref)
  unfold onDb
  exact ⟨h.reply, h.hint, h.crash, by simp only [h.pushed], rfl, simS_setDb hs ref h.db⟩

/-- every command function, run on two databases with the same live objects: same outcome -/
theorem CmdFn.obs {c : Ctx} {cmd : Cmd} {f : Db → R} (hf : CmdFn c cmd f) (hr : c.q.rawLookupSeesExpired = false)
    (a b : Db) (h : Sim c.now a b) : Obs c.now (f a) (f b) := by
  cases hf <;> dsimp only
  case set => unfold cmdSet; obs
  case append => unfold cmdAppend; obs
  case get => unfold cmdGet; obs
  case getdel => unfold cmdGetDel; obs
  case getex => unfold cmdGetEx; obs
  case strlen => unfold cmdStrlen; obs
  case getrange => unfold cmdGetRange; obs
  case setrange => unfold cmdSetRange; obs
  case incrby => exact incrby_obs (h := h) (hr := hr) ..
  case decrby => exact decrby_obs (h := h) (hr := hr) ..
  case incrbyfloat => unfold cmdIncrByFloat; obs
  case mget => unfold cmdMGet; obs
  case mset => unfold cmdMSet; obs
  case lcsLen => unfold cmdLcsLen; obs
  case push => unfold cmdPush; obs
  case pop => exact pop_obs (h := h) (hr := hr) ..
  case llen => unfold cmdLLen; obs
  case lindex => unfold cmdLIndex; obs
  case lrange => unfold cmdLRange; obs
  case lset => unfold cmdLSet; obs
  case linsert => unfold cmdLInsert; obs
  case lrem => unfold cmdLRem; obs
  case ltrim => unfold cmdLTrim; obs
  case lpos => unfold cmdLPos; obs
  case lmove => exact lmove_obs (h := h) ..
  case lmpop => exact lmpop_obs (h := h) (hr := hr) ..
  case bpop => exact bpop_obs (h := h) (hr := hr) ..
  case hset => unfold cmdHSet; obs
  case hget => unfold cmdHGet; obs
  case hmget => unfold cmdHMGet; obs
  case hgetall => unfold cmdHGetAll; obs
  case hkeys => unfold cmdHKeys; obs
  case hlen => unfold cmdHLen; obs
  case hexists => unfold cmdHExists; obs
  case hstrlen => unfold cmdHStrlen; obs
  case hdel => unfold cmdHDel; obs
  case hincrby => unfold cmdHIncrBy; obs
  case hincrbyfloat => unfold cmdHIncrByFloat; obs
  case hrandfield => unfold cmdHRandField; obs
  case sadd => unfold cmdSAdd; obs
  case srem => unfold cmdSRem; obs
  case scard => unfold cmdSCard; obs
  case sismember => unfold cmdSIsMember; obs
  case smismember => unfold cmdSMIsMember; obs
  case smembers => unfold cmdSMembers; obs
  case smove => unfold cmdSMove; obs
  case salg => unfold cmdSetAlgebra; obs
  case salgStore => unfold cmdSetAlgebraStore; obs
  case sintercard => unfold cmdSInterCard; obs
  case srandmember => unfold cmdSRandMember; obs
  case del => exact del_obs (h := h) ..
  case exists_ | touch => unfold cmdExists; obs
  case type_ => unfold cmdType; obs
  case rename => unfold cmdRename; obs
  case copy => unfold cmdCopy; obs
  case sort => exact sort_obs (h := h) ..
  case keys | randomkey => exact Obs.lit h
  case expire => unfold cmdExpireAt; obs
  case persist => unfold cmdPersist; obs
  case ttl => unfold cmdTtl; obs
  case scan => unfold cmdScan; obs
  case getbit => unfold cmdGetBit; obs
  case setbit => exact setbit_obs (h := h) (hr := hr) ..
  case bitcount => unfold cmdBitCount R.crashed; obs
  case bitpos => unfold cmdBitPos; obs
  case bitop => unfold cmdBitOp; obs
  case bitfield => exact bitfield_obs (h := h) (hr := hr) ..

/-- **No command can tell an expired key from a missing one.** Two servers whose databases hold the same
    live objects — whatever expired objects either still stores — give, for every command, any arguments,
    any connection: the same reply, the same wake-ups, and states that are again indistinguishable. -/
theorem runCmd_sim (c : Ctx) (s s' : State) (conn ref : Nat) (m : Bool) (cmd : Cmd)
    (hr : c.q.rawLookupSeesExpired = false) (hs : SimS c.now s s') :
    ObsOut c.now (runCmd c s conn ref m cmd) (runCmd c s' conn ref m cmd) := by
  refine runCmd_cases₂ (P := ObsOut c.now) c s s' conn ref m cmd
    (fun f hcf => onDb_obs hs ref f (hcf.obs hr)) (fun v _ => .lit hs) (fun hse => ?_)
  have table (t : List (Nat × Nat)) : SimS c.now { s with table := t } { s' with table := t } :=
    ⟨hs.sessions, rfl, hs.nextRef, hs.refs, hs.dbs⟩
  revert hse
  fun_cases Cmd.isSession cmd <;> intro hse
  case case20 => cases hse                                  -- no session command
  case case1 i =>                                           -- SELECT
    simp only [runCmd]
    refine ite_rel (fun _ => .lit hs) fun _ => ?_
    obtain ⟨h1, h2⟩ := simS_tableRef hs i.toNat
    rw [h2, session_simS h1 conn]
    exact .lit (simS_setSession h1 ..)
  case case2 =>                                             -- FLUSHDB
    simp only [runCmd, session_simS hs conn, hs.table]
    refine ite_rel (fun _ => ?_) fun _ => ?_
    · obtain ⟨h1, h2⟩ := simS_tableRef (table _) (s'.session conn).dbIdx
      rw [h2]
      exact .lit (simS_setSession h1 ..)
    · obtain ⟨h1, h2⟩ := simS_tableRef hs (s'.session conn).dbIdx
      rw [h2]
      exact .lit (simS_setDb h1 _ (sim_flushed (h1.dbs _)))
  case case3 =>                                             -- FLUSHALL
    simp only [runCmd, session_simS hs conn]
    refine ite_rel (fun _ => ?_) fun _ => .lit ⟨hs.sessions, hs.table, hs.nextRef, ?_, fun r => ?_⟩
    · obtain ⟨h1, h2⟩ := simS_tableRef (table _) (s'.session conn).dbIdx
      rw [h2]
      exact .lit (simS_setSession h1 ..)
    · simp only [List.map_map]; exact hs.refs
    · have e := getDb_mapHeap flushed rfl
      simp only [flushed] at e
      rw [e, e]
      exact sim_flushed (hs.dbs r)
  case case7 ks =>                                          -- WATCH
    simp only [runCmd, session_simS hs conn, (hs.dbs ref).live]
    refine ite_rel (fun _ => .lit hs) fun _ => ?_
    exact .lit (simS_setSession hs ..)
  case case8 => simp only [runCmd, session_simS hs conn]; exact .lit (simS_setSession hs ..)   -- UNWATCH
  case case12 v =>                                          -- HELLO
    simp only [runCmd, session_simS hs conn]
    split
    · exact ite_rel (fun _ => .lit hs) fun _ => .lit (simS_setSession hs ..)
    · exact .lit hs
  case case15 nm =>                                         -- CLIENT SETNAME
    simp only [runCmd, session_simS hs conn]
    exact ite_rel (fun _ => .lit hs) fun _ => .lit (simS_setSession hs ..)
  case case9 o => cases o <;> exact .lit hs                 -- PING with and without a message
  case case13 | case14 => simp only [runCmd, session_simS hs conn]; exact .lit hs   -- CLIENT ID, CLIENT GETNAME
  case case18 =>                                            -- DBSIZE
    simp only [runCmd, hr, Bool.false_eq_true, ↓reduceIte]
    rw [liveKeys_length_sim (hs.dbs _)]
    exact .lit hs
  all_goals exact .lit hs

/-- `runCmd_sim` with D42 assumed repaired (FLUSHDB / FLUSHALL do not detach), which it does not need -/
theorem runCmd_obs (c : Ctx) (s s' : State) (conn ref : Nat) (m : Bool) (cmd : Cmd)
    (hr : c.q.rawLookupSeesExpired = false) (hf : c.q.flushDetaches = false)
    (hs : SimS c.now s s') : ObsOut c.now (runCmd c s conn ref m cmd) (runCmd c s' conn ref m cmd) :=
  runCmd_sim c s s' conn ref m cmd hr hs

theorem expired_mono (e : Entry) (now now' : Int) (h : now ≤ now') (hx : e.expired now = true) : e.expired now' = true := by
  unfold Entry.expired at *
  split at hx
  · cases hx
  · exact decide_eq_true (Int.lt_of_lt_of_le (of_decide_eq_true hx) h)

/-- what is live later is what is live now and has not expired since -/
theorem live_later (db : Db) {now now' : Int} (hle : now ≤ now') (k : Bytes) :
    db.live now' k = (db.live now k).filter fun e => !e.expired now' := by
  rw [live_eq_filter, live_eq_filter, Option.filter_filter]
  congr 1
  funext e
  cases hx : e.expired now
  · rfl
  · rw [expired_mono e now now' hle hx]; rfl

/-- what cannot be told apart now cannot be told apart later: objects expire on both sides alike -/
theorem sim_later {now now' : Int} {a b : Db} (hle : now ≤ now') (h : Sim now a b) : Sim now' a b :=
  ⟨h.ua, h.ub, h.next, fun k => by rw [live_later a hle, live_later b hle, h.live]⟩

theorem simS_later {now now' : Int} {s s' : State} (hle : now ≤ now') (h : SimS now s s') : SimS now' s s' :=
  ⟨h.sessions, h.table, h.nextRef, h.refs, fun r => sim_later hle (h.dbs r)⟩

def replies : State → List Ev → List Value
  | _, [] => []
  | s, e :: r => (runCmd e.c s e.conn e.ref e.inMulti e.cmd).reply :: replies (runCmd e.c s e.conn e.ref e.inMulti e.cmd).st r

/-- the clocks the commands saw do not run backwards -/
def clocksFrom : Int → List Ev → Prop
  | _, [] => True
  | now, e :: r => now ≤ e.c.now ∧ clocksFrom e.c.now r

/-- every history of commands, the clocks not running backwards, gets the same replies from two
    indistinguishable servers; all that is asked is that lookups do not see expired objects (D22 off) -/
theorem history_sim (evs : List Ev) : ∀ (now : Int) (s s' : State), SimS now s s' → clocksFrom now evs →
    (∀ e ∈ evs, e.c.q.rawLookupSeesExpired = false) → replies s evs = replies s' evs := by
  induction evs with
  | nil => intro _ _ _ _ _ _; rfl
  | cons e r ih =>
    intro now s s' hs hc hq
    have ho := runCmd_sim e.c s s' e.conn e.ref e.inMulti e.cmd (hq e List.mem_cons_self) (simS_later hc.1 hs)
    unfold replies
    rw [ho.reply]
    congr 1
    exact ih e.c.now _ _ ho.st hc.2 (fun e' he' => hq e' (List.mem_cons_of_mem _ he'))

/-- `history_sim` with D42 assumed repaired as well -/
theorem history_obs (evs : List Ev) : ∀ (now : Int) (s s' : State), SimS now s s' → clocksFrom now evs →
    (∀ e ∈ evs, e.c.q.rawLookupSeesExpired = false ∧ e.c.q.flushDetaches = false) →
    replies s evs = replies s' evs :=
  fun now s s' hs hc hq => history_sim evs now s s' hs hc fun e he => (hq e he).1

def purgeS (now : Int) (s : State) : State :=
  { s with heap := s.heap.map fun (p : Nat × Db) => (p.1, p.2.purge now) }

theorem getDb_purgeS (now : Int) (s : State) (r : Nat) : (purgeS now s).getDb r = (s.getDb r).purge now :=
  getDb_mapHeap (Db.purge now) rfl s r

theorem simS_purgeS (now : Int) (s : State) (hu : s.Uniq) : SimS now (purgeS now s) s := by
  refine ⟨rfl, rfl, rfl, ?_, ?_⟩
  · simp only [purgeS, List.map_map]; rfl
  · intro r
    rw [getDb_purgeS]
    exact sim_purge now _ (hu r)

/-- **From the deadline on, an expired key is a missing key — for every command, in every history.**
    Remove every expired object from every database of a server (any reachable one: unique keys is all
    that is asked), then let any history of commands of any connections run on both servers, the clocks
    not running backwards: every reply is the same. No command returns, counts, matches, moves, copies,
    watches or is refused because of expired data. -/
theorem expired_is_missing (now : Int) (s : State) (hu : s.Uniq) (evs : List Ev) (hc : clocksFrom now evs)
    (hq : ∀ e ∈ evs, e.c.q.rawLookupSeesExpired = false ∧ e.c.q.flushDetaches = false) :
    replies (purgeS now s) evs = replies s evs :=
  history_obs evs now _ _ (simS_purgeS now s hu) hc hq

/-- and the purged server really holds nothing expired -/
theorem purgeS_holds_nothing_expired (now : Int) (s : State) (r : Nat) (p : Bytes × Entry)
    (hp : p ∈ ((purgeS now s).getDb r).keys) : p.2.expired now = false := by
  rw [getDb_purgeS] at hp
  exact purge_all_live now _ p hp

end RedisEmu
