import RedisEmu.Proofs.Mut
import RedisEmu.Props.C01
import RedisEmu.Proofs.ParserSafe
/-
  C13 — no client input can crash the process, and every well-formed command gets one reply.
  In the model every Go panic site is an explicit `crash` outcome (`R.crash`, `PR.crash`). After the
  repairs recorded in known_findings.jsonl the command semantics have no crash outcome left for any
  argument value and any database content; the theorems below state that, for every command and
  all inputs. (The `corr` run compares "the implementation panicked" with "the model says crash" on
  every generated step, so a new panic site in the Go code shows up as a disagreement.)
-/
namespace RedisEmu

/-- a well-formed command (array of bulk strings) is always parsed to a complete value: the socket
    loop hands exactly one request to the dispatcher, never panics, never waits for more -/
theorem wellformed_command_parses (argv : List Bytes) (rest : Bytes)
    (hn : argv.length < 2 ^ 63) (hl : ∀ a ∈ argv, a.length < 2 ^ 63) :
    ∃ v n, parseRes (encodeCmd argv ++ rest) = .complete v n ∧ n = (encodeCmd argv).length :=
  ⟨_, _, parse_encodeCmd argv rest hn hl, rfl⟩

/-! ### no command semantics function has a crash outcome, for any argument and any database

  One theorem for all of them: `CmdFn.eff` (Proofs/Mut.lean), field `crash`. The only crash sites of the
  model are the BITCOUNT panic behind the quirk flag and a destination vanishing in LMOVE, which
  `lmove_eff` shows unreachable. -/

section
variable (c : Ctx) (db : Db) (b : Bool) (ks : List Bytes)

theorem mget_no_crash : (cmdMGet c db ks).crash = none := rfl
theorem del_no_crash : (cmdDel c db ks b).crash = none := rfl
theorem exists_no_crash : (cmdExists c db ks).crash = none := rfl
end

theorem sort_no_crash (c : Ctx) (db : Db) (key : Bytes) (by_ : Option Bytes) (limit : Option (Int × Int))
    (gets : List Bytes) (desc alpha : Bool) (store : Option Bytes) :
    (cmdSort c db key by_ limit gets desc alpha store).crash = none := by
  have fin out hint : (sortFinish db store out hint).crash = none := by
    fun_cases sortFinish db store out hint <;> rfl
  fun_cases cmdSort c db key by_ limit gets desc alpha store <;> first | rfl | exact fin ..

/-- **No command of the model has a crash outcome**: for every parsed command, every argument value,
    every database content and session state (with the quirk that modelled the repaired BITCOUNT panic off) -/
theorem runCmd_no_crash (c : Ctx) (s : State) (conn ref : Nat) (m : Bool) (cmd : Cmd)
    (hq : c.q.bitcountEmptyCrash = false) :
    (runCmd c s conn ref m cmd).crash = none :=
  runCmd_cases (P := fun o => o.crash = none) c s conn ref m cmd
    (fun f hf => (hf.effAny _).crash hq) (fun _ _ => rfl)
    (fun hs => (runCmd_session c s conn ref m cmd hs).2.1)

theorem execQueue_no_crash (conn : Nat) (q : List Queued) :
    ∀ (c : Ctx) (impls : List Value) (s : State) (vs : List Value) (hs : List Match) (ps : List (Nat × Bytes × Nat)),
      c.q.bitcountEmptyCrash = false →
      (execQueue c conn q impls s vs hs ps).2.2.2.2 = none := by
  intro c impls s vs hs ps
  -- the cases of `execQueue`: 1 the queue is done, 2 an entry without words, 3 an unmodelled command,
  -- 4 arguments that do not parse, 5 the handler crashes, 6 the command has run
  fun_induction execQueue c conn q impls s vs hs ps <;> intro hq
  case case1 => rfl
  case case5 hc => cases hc.symm.trans (runCmd_no_crash _ _ _ _ _ _ hq)
  case case2 ih | case3 ih | case4 ih | case6 ih => exact ih hq

theorem dispatchParsed_no_crash (c : Ctx) (s : State) (conn : Nat) (argv : List Bytes) (cmd : Cmd)
    (hq : c.q.bitcountEmptyCrash = false) :
    (dispatchParsed c s conn argv cmd).crash = none :=
  dispatchParsed_cases (P := fun o => o.crash = none) c s conn argv cmd (fun _ _ _ => rfl)
    (fun _ => runCmd_no_crash _ _ _ _ _ _ hq)
    (fun q _ _ _ _ _ he => (congrArg (·.2.2.2.2) he).symm.trans (execQueue_no_crash conn q c _ s _ _ _ hq))

/-- **Whatever a client sends as a command, in whatever session state, the model has no crash outcome**
    (unknown commands, wrong arity, every option combination on every key type, inside or outside
    MULTI, including everything EXEC runs) -/
theorem dispatch_no_crash (c : Ctx) (s : State) (conn : Nat) (argv : List Bytes)
    (hq : c.q.bitcountEmptyCrash = false) :
    (dispatch c s conn argv).crash = none := by
  fun_cases dispatch c s conn argv <;> first | rfl | exact dispatchParsed_no_crash c s conn _ _ hq

/-- **No sequence of bytes makes the parser panic**: for every input — malformed, truncated, nested to any
    depth, with any declared lengths and counts — `parse` answers a value or "not (yet) valid", never the
    crash outcome (the model's rendering of a Go panic). -/
theorem parse_never_crashes (inp : Bytes) : ∀ site, parseRes inp ≠ .crash site := by
  intro site hc
  unfold parseRes parse at hc
  have hs := (parserSafe_all (inp.length + 1)).value false inp 0
  split at hc
  · cases hc
  · cases hc
  · rename_i s heq
    exact crash_absurd hs heq

theorem drain_alive (fuel : Nat) (s : ConnState) (h : s.dead = false) : (drain fuel s).dead = false := by
  fun_induction drain fuel s
  case case6 site hp => exact absurd hp (parse_never_crashes _ site)   -- the parser's crash outcome
  case case4 ih => exact ih h                                          -- a command was taken off the buffer
  all_goals exact h

/-- … hence no sequence of segments kills a connection: the buffer model never reaches its dead state -/
theorem feed_never_dies (chunks : List Bytes) : ∀ (s : ConnState), s.dead = false → (chunks.foldl feed s).dead = false := by
  induction chunks with
  | nil => exact fun s h => h
  | cons c r ih => exact fun s h => ih _ (drain_alive _ _ h)

end RedisEmu
