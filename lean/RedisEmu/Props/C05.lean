import RedisEmu.Proofs.Random
import RedisEmu.Proofs.Mut
/-
  C05 — set commands and set algebra (family `set` of the correspondence run).
  SINTER / SUNION / SDIFF are brought to one form, the fold of `SetOp.step` over the operands
  (`setAlgebra_eq`); what they return and that it has no repeated member are facts about that fold.
-/
namespace RedisEmu

/-- the set a key denotes for the algebra commands (missing key = empty set) -/
def operandSet (c : Ctx) (db : Db) (k : Bytes) : List Bytes := (setOperand c db k).getD []

def wellTyped (c : Ctx) (db : Db) (k : Bytes) : Prop := (setOperand c db k).isSome = true

theorem setOperand_cases (c : Ctx) (db : Db) (k : Bytes) :
    (setOf c db k = .error () ∧ setOperand c db k = none) ∨
    (setOf c db k = .ok none ∧ setOperand c db k = some []) ∨
    (∃ e s, setOf c db k = .ok (some (e, s)) ∧ setOperand c db k = some s) := by
  unfold setOperand
  rcases setOf c db k with _ | _ | ⟨e, s⟩
  · exact .inl ⟨rfl, rfl⟩
  · exact .inr (.inl ⟨rfl, rfl⟩)
  · exact .inr (.inr ⟨e, s, rfl, rfl⟩)

theorem operandSet_ok {c : Ctx} {db : Db} {k : Bytes} {o : Option (Entry × List Bytes)} (h : setOf c db k = .ok o) :
    operandSet c db k = (o.map (·.2)).getD [] := by
  unfold operandSet setOperand; rw [h]; rcases o with _ | ⟨_, _⟩ <;> rfl

def SetOp.step : SetOp → List Bytes → List Bytes → List Bytes
  | .inter, d, s => d.filter (s.contains ·)
  | .union, d, s => dedup (d ++ s)
  | .diff, d, s => d.filter (!s.contains ·)

theorem mem_dedup (l : List Bytes) (m : Bytes) : m ∈ dedup l ↔ m ∈ l := by
  induction l with
  | nil => simp [dedup]
  | cons x r ih => by_cases hx : m = x <;> simp [dedup, ih, hx]

theorem dedup_nodup (l : List Bytes) : (dedup l).Nodup := by
  induction l with
  | nil => exact .nil
  | cons x r ih => exact List.nodup_cons.mpr ⟨fun hm => by simpa using (List.mem_filter.mp hm).2, ih.filter _⟩

theorem SetOp.mem_inter {m : Bytes} {d s : List Bytes} : m ∈ SetOp.inter.step d s ↔ m ∈ d ∧ m ∈ s := by
  simp [SetOp.step]

theorem SetOp.mem_union {m : Bytes} {d s : List Bytes} : m ∈ SetOp.union.step d s ↔ m ∈ d ∨ m ∈ s := by
  simp only [SetOp.step, mem_dedup, List.mem_append]

theorem SetOp.mem_diff {m : Bytes} {d s : List Bytes} : m ∈ SetOp.diff.step d s ↔ m ∈ d ∧ m ∉ s := by
  simp [SetOp.step]

theorem SetOp.step_nodup (op : SetOp) {d : List Bytes} (s : List Bytes) (hd : d.Nodup) : (op.step d s).Nodup := by
  cases op <;> first | exact hd.filter _ | exact dedup_nodup _

theorem foldl_stays_nil {α β} {g : List α → β → List α} (hg : ∀ k, g [] k = []) (ks : List β) : ks.foldl g [] = [] := by
  induction ks with
  | nil => rfl
  | cons k r ih => rw [List.foldl_cons, hg, ih]

theorem foldl_iff {α β} {A : α → Prop} {Q : β → Prop} {g : α → β → α} (hg : ∀ d k, A (g d k) ↔ A d ∧ Q k)
    (ks : List β) (d : α) : A (ks.foldl g d) ↔ A d ∧ ∀ k ∈ ks, Q k := by
  induction ks generalizing d with
  | nil => simp
  | cons k r ih => simp [ih, hg, and_assoc]

/-- the loop of SUNION and SDIFF comes to an end only from a result so far, and then it is the fold of the
    step over the operands -/
theorem optFold_some (c : Ctx) (db : Db) (step : List Bytes → List Bytes → List Bytes) (rest : List Bytes)
    (acc : Option (List Bytes)) (s : List Bytes)
    (h : rest.foldl (fun acc k => match acc with
        | none => none
        | some d => match setOperand c db k with
          | none => none
          | some s => some (step d s)) acc = some s) :
    ∃ d, acc = some d ∧ s = rest.foldl (fun d k => step d (operandSet c db k)) d := by
  induction rest generalizing acc with
  | nil => exact ⟨s, h, rfl⟩
  | cons k r ih =>
    obtain ⟨d', h', rfl⟩ := ih _ h
    cases acc with
    | none => cases h'
    | some d =>
      refine ⟨d, rfl, ?_⟩
      cases hk : setOperand c db k with
      | none => simp only [hk] at h'; cases h'
      | some sk => simp only [hk] at h'; cases h'; simp only [List.foldl_cons, operandSet, hk, Option.getD_some]

/-- the loop of SINTER; where it stops at a missing key the fold is empty from there on -/
theorem inter_go_eq (c : Ctx) (db : Db) (rest d s : List Bytes) (h : setAlgebra.go c db rest d = some s) :
    s = rest.foldl (fun d k => SetOp.inter.step d (operandSet c db k)) d := by
  fun_induction setAlgebra.go c db rest d with
  | case1 d => cases h; rfl
  | case2 => cases h
  | case3 k r d hk =>
    cases h
    have : SetOp.inter.step d (operandSet c db k) = [] := by simp [List.eq_nil_iff_forall_not_mem, SetOp.mem_inter, operandSet_ok hk]
    rw [List.foldl_cons, this, foldl_stays_nil]
    exact fun _ => rfl
  | case4 k r d e old hk ih => rw [ih h, List.foldl_cons, operandSet_ok hk]; rfl

/-- **SINTER / SUNION / SDIFF are the fold of their step over the operands**, a missing or wrong-typed key
    read as the empty set, whenever they succeed: the early exits return what the fold would. -/
theorem setAlgebra_eq {c : Ctx} {db : Db} {op : SetOp} {first : Bytes} {rest s : List Bytes}
    (h : setAlgebra c db op first rest = some s) :
    s = rest.foldl (fun d k => op.step d (operandSet c db k)) (operandSet c db first) := by
  unfold setAlgebra at h
  split at h
  · cases h
  · rename_i o ho
    rw [operandSet_ok ho]
    rcases o with _ | ⟨e, m⟩ <;> cases op <;>
      simp only [Option.isNone_none, Option.isNone_some, ↓reduceIte, Bool.false_eq_true] at h
    case none.inter | none.diff => cases h; exact Eq.symm (foldl_stays_nil (fun _ => rfl) _)
    case some.inter => exact inter_go_eq c db rest _ s h
    -- SUNION, and SDIFF from a first operand that is there
    all_goals obtain ⟨_, ⟨⟩, h⟩ := optFold_some c db _ rest _ s h; exact h

/-- SINTER returns exactly the mathematical intersection of its operands, for any operand list
    (repeats included), missing keys being empty sets -/
theorem sinter_is_intersection (c : Ctx) (db : Db) (first : Bytes) (rest : List Bytes) (s : List Bytes)
    (h : setAlgebra c db .inter first rest = some s) (hw : ∀ k ∈ first :: rest, wellTyped c db k) :
    ∀ m, m ∈ s ↔ ∀ k ∈ first :: rest, m ∈ operandSet c db k := by
  intro m -- `hw` is not needed: a wrong-typed operand that the early exit skipped counts as empty
  rw [setAlgebra_eq h, List.forall_mem_cons]
  exact foldl_iff (A := (m ∈ ·)) (Q := (m ∈ operandSet c db ·)) (fun _ _ => SetOp.mem_inter) rest _

/-- SUNION returns exactly the union of its operands -/
theorem sunion_is_union (c : Ctx) (db : Db) (first : Bytes) (rest : List Bytes) (s : List Bytes)
    (h : setAlgebra c db .union first rest = some s) :
    ∀ m, m ∈ s ↔ ∃ k ∈ first :: rest, m ∈ operandSet c db k := by
  intro m
  -- through the complement: `m` is in no operand
  rw [setAlgebra_eq h, ← Decidable.not_iff_not, foldl_iff (A := (m ∉ ·)) (Q := (m ∉ operandSet c db ·))]
  · simp
  · intro d k; rw [SetOp.mem_union, not_or]

/-- SDIFF returns exactly the first operand minus all the others -/
theorem sdiff_is_difference (c : Ctx) (db : Db) (first : Bytes) (rest : List Bytes) (s : List Bytes)
    (h : setAlgebra c db .diff first rest = some s) :
    ∀ m, m ∈ s ↔ (m ∈ operandSet c db first ∧ ∀ k ∈ rest, m ∉ operandSet c db k) := by
  intro m
  rw [setAlgebra_eq h]
  exact foldl_iff (A := (m ∈ ·)) (Q := (m ∉ operandSet c db ·)) (fun _ _ => SetOp.mem_diff) rest _

/-! ### the non-STORE forms never modify an operand; the STORE forms replace the destination -/

theorem algebra_pure (c : Ctx) (db : Db) (op : SetOp) (ks : List Bytes) :
    (cmdSetAlgebra c db op ks).db = db := by
  fun_cases cmdSetAlgebra <;> rfl

/-- a non-empty result replaces the destination (whatever it held, operand or not) with exactly
    that result and no deadline; an empty result deletes it -/
theorem store_replaces (c : Ctx) (db : Db) (op : SetOp) (dst f : Bytes) (r s : List Bytes)
    (h : setAlgebra c db op f r = some s) :
    (cmdSetAlgebraStore c db op dst (f :: r)).db =
      (if s.isEmpty then db.del dst else db.put dst (.set s) none) ∧
    (cmdSetAlgebraStore c db op dst (f :: r)).reply = vInt s.length := by
  unfold cmdSetAlgebraStore
  simp only [h]
  split
  · rw [List.isEmpty_iff.mp ‹s.isEmpty = true›]; exact ⟨rfl, rfl⟩
  · exact ⟨rfl, rfl⟩

/-- a wrong-typed operand makes the STORE form fail without touching anything -/
theorem store_wrongtype_inert (c : Ctx) (db : Db) (op : SetOp) (dst f : Bytes) (r : List Bytes)
    (h : setAlgebra c db op f r = none) :
    (cmdSetAlgebraStore c db op dst (f :: r)).db = db ∧
    (cmdSetAlgebraStore c db op dst (f :: r)).reply = wrongType := by
  unfold cmdSetAlgebraStore
  simp [h, R.ok]

def sintercardShape : Option Cmd → Option (Int × Nat × Int)
  | some (.sintercard nk ks lim) => some (nk, ks.length, lim)
  | _ => none

/-- D88: a trailing `LIMIT <integer>` is read as the option although numkeys makes the two words keys
    (`SINTERCARD 4 k k limit 1`: Redis intersects the four keys `k k limit 1`) -/
theorem sintercard_limit_greedy_witness :
    sintercardShape (parseCmdQ { Quirks.none with sintercardLimitGreedy := true } (sb "SINTERCARD")
        [sb "4", sb "k", sb "k", sb "limit", sb "1"]) = some (4, 2, 1) ∧
    sintercardShape (parseCmdQ Quirks.none (sb "SINTERCARD")
        [sb "4", sb "k", sb "k", sb "limit", sb "1"]) = some (4, 4, 0) := by
  decide +kernel

/-- SADD appends the members the set does not hold yet, each once, in the order of the arguments, and
    counts them -/
theorem saddAll_spec (ms s : List Bytes) (n : Nat) :
    ∃ t, saddAll ms s n = (s ++ t, n + t.length) ∧ t.Nodup ∧ ∀ x, x ∈ t ↔ x ∈ ms ∧ x ∉ s := by
  fun_induction saddAll ms s n with
  | case1 s n => exact ⟨[], by simp, .nil, by simp⟩
  | case2 m r s n hm ih =>
    obtain ⟨t, h, hn, ht⟩ := ih
    have hm : m ∈ s := by simpa using hm
    refine ⟨t, h, hn, fun x => (ht x).trans (and_congr_left fun hx => ?_)⟩
    exact ⟨List.mem_cons_of_mem _, fun h => (List.mem_cons.mp h).resolve_left fun e => hx (e ▸ hm)⟩
  | case3 m r s n hm ih =>
    obtain ⟨t, h, hn, ht⟩ := ih
    have hm : m ∉ s := by simpa using hm
    refine ⟨m :: t, ?_, List.nodup_cons.mpr ⟨fun hmt => ((ht m).mp hmt).2 (by simp), hn⟩, fun x => ?_⟩
    · rw [h, List.append_assoc, List.length_cons, Nat.add_right_comm, Nat.add_assoc]; rfl
    · by_cases hx : x = m <;> simp [hx, ht, hm]

/-- after SADD the members are exactly the old ones and the added ones -/
theorem saddAll_mem (ms : List Bytes) : ∀ (s : List Bytes) (n : Nat) (x : Bytes),
    x ∈ (saddAll ms s n).1 ↔ x ∈ s ∨ x ∈ ms := by
  intro s n x
  obtain ⟨t, h, -, ht⟩ := saddAll_spec ms s n
  rw [h, List.mem_append, ht]
  by_cases hx : x ∈ s <;> simp [hx]

/-- no member is ever held twice -/
theorem saddAll_nodup (ms : List Bytes) : ∀ (s : List Bytes) (n : Nat), s.Nodup → (saddAll ms s n).1.Nodup := by
  intro s n hs
  obtain ⟨t, h, hn, ht⟩ := saddAll_spec ms s n
  rw [h]
  exact List.nodup_append.mpr ⟨hs, hn, fun a ha b hb e => ((ht b).mp hb).2 (e ▸ ha)⟩

/-- the reply of SADD is the number of members that were really added -/
theorem saddAll_count (ms : List Bytes) : ∀ (s : List Bytes) (n : Nat),
    (saddAll ms s n).2 + s.length = n + (saddAll ms s n).1.length := by
  intro s n
  obtain ⟨t, h, -⟩ := saddAll_spec ms s n
  rw [h, List.length_append]; omega

theorem sremAll_eq_filter (ms s : List Bytes) (n : Nat) (hs : s.Nodup) :
    (sremAll ms s n).1 = s.filter (!ms.contains ·) := by
  fun_induction sremAll ms s n with
  | case1 s n => exact (List.filter_eq_self.mpr fun _ _ => rfl).symm
  | case2 m r s n he => rw [List.isEmpty_iff.mp he]; rfl
  | case3 m r s n _ hm ih =>
    rw [ih (hs.erase m), hs.erase_eq_filter, List.filter_filter]
    exact List.filter_congr fun x _ => by rw [List.contains_cons, Bool.not_or, Bool.and_comm]; rfl
  | case4 m r s n _ hm ih =>
    rw [ih hs]
    exact List.filter_congr fun x hx => by
      have : (x == m) = false := beq_eq_false_iff_ne.mpr fun e => hm (List.contains_iff_mem.mpr (e ▸ hx))
      rw [List.contains_cons, this, Bool.false_or]

/-- after SREM the members are exactly the old ones that were not named -/
theorem sremAll_mem (ms : List Bytes) : ∀ (s : List Bytes) (n : Nat) (x : Bytes), s.Nodup →
    (x ∈ (sremAll ms s n).1 ↔ x ∈ s ∧ x ∉ ms) := by
  intro s n x hs
  simp [sremAll_eq_filter ms s n hs]

theorem sremAll_nodup (ms : List Bytes) : ∀ (s : List Bytes) (n : Nat), s.Nodup → (sremAll ms s n).1.Nodup := by
  intro s n hs
  exact sremAll_eq_filter ms s n hs ▸ hs.filter _

/-- the reply of SREM is the number of members that were really removed -/
theorem sremAll_count (ms : List Bytes) : ∀ (s : List Bytes) (n : Nat),
    (sremAll ms s n).2 + (sremAll ms s n).1.length = n + s.length := by
  intro s n
  fun_induction sremAll ms s n with
  | case1 | case2 => rfl
  | case3 m r s n _ hm ih =>
    have hm : m ∈ s := by simpa using hm
    rw [ih, List.length_erase_of_mem hm, Nat.add_assoc, Nat.add_sub_cancel' (List.length_pos_of_mem hm)]
  | case4 _ _ _ _ _ _ ih => exact ih

def Val.distinct : Val → Prop
  | .set s => s.Nodup
  | .hash h => (h.map (·.1)).Nodup
  | _ => True

structure Db.Distinct (db : Db) : Prop where
  all : ∀ p ∈ db.keys, p.2.val.distinct

theorem distinct_init : ({} : Db).Distinct := ⟨by simp⟩

theorem Db.Distinct.toForall {db : Db} (h : db.Distinct) : db.Forall fun _ v => v.distinct := h.all

theorem distinct_put (db : Db) (k : Bytes) (v : Val) (x : Option Int) (h : db.Distinct) (hv : v.distinct) :
    (db.put k v x).Distinct := ⟨h.toForall.put hv x⟩

theorem distinct_poke (db : Db) (k : Bytes) (e : Entry) (h : db.Distinct) (hv : e.val.distinct) :
    (db.poke k e).Distinct := ⟨h.toForall.poke hv⟩

theorem distinct_del (db : Db) (k : Bytes) (h : db.Distinct) : (db.del k).Distinct := ⟨h.toForall.del k⟩

theorem distinct_setDirty (db : Db) (h : db.Distinct) : db.setDirty.Distinct := ⟨h.all⟩

theorem distinct_dirtyUnlessQuirk (c : Ctx) (db : Db) (h : db.Distinct) : (dirtyUnlessQuirk c db).Distinct :=
  iteInduction (fun _ => h) fun _ => distinct_setDirty _ h

theorem distinct_bump (c : Ctx) (db : Db) (e : Entry) (h : db.Distinct) : (bump c db e).1.Distinct :=
  ⟨h.toForall.bump c e⟩

theorem distinct_upd (c : Ctx) (db : Db) (k : Bytes) (e : Entry) (v : Val) (h : db.Distinct)
    (hv : v.nonEmpty = true → v.distinct) : (upd c db k e v).Distinct := ⟨h.toForall.upd c e hv⟩

theorem live_distinct {db : Db} {now : Int} {k : Bytes} {e : Entry} (hi : db.Distinct) (h : db.live now k = some e) :
    e.val.distinct := hi.toForall.live h

theorem setOf_distinct {c : Ctx} {db : Db} {k : Bytes} {e : Entry} {s : List Bytes} (hi : db.Distinct)
    (h : setOf c db k = .ok (some (e, s))) : s.Nodup := by
  obtain ⟨hl, hv⟩ := setOf_live h
  exact (hv ▸ live_distinct hi hl :)

theorem hashOf_distinct {c : Ctx} {db : Db} {k : Bytes} {e : Entry} {hh : List (Bytes × Bytes)} (hi : db.Distinct)
    (h : hashOf c db k = .ok (some (e, hh))) : (hh.map (·.1)).Nodup := by
  obtain ⟨hl, hv⟩ := hashOf_live h
  exact (hv ▸ live_distinct hi hl :)

theorem operandSet_nodup {c : Ctx} {db : Db} (hi : db.Distinct) (k : Bytes) : (operandSet c db k).Nodup := by
  rcases setOperand_cases c db k with ⟨-, ho⟩ | ⟨-, ho⟩ | ⟨e, m, he, ho⟩ <;> rw [operandSet, ho]
  · exact .nil
  · exact .nil
  · exact setOf_distinct hi he

/-- the result of SINTER / SUNION / SDIFF has no repeated member -/
theorem setAlgebra_nodup (c : Ctx) (db : Db) (op : SetOp) (f : Bytes) (r s : List Bytes) (hi : db.Distinct)
    (h : setAlgebra c db op f r = some s) : s.Nodup := by
  rw [setAlgebra_eq h]
  exact List.foldlRecOn r _ (operandSet_nodup hi f) fun _ hd _ _ => op.step_nodup _ hd

theorem hsetAll_fields' {nx : Bool} {fvs hh r : List (Bytes × Bytes)} {n k : Nat} (h : hsetAll nx fvs hh n = (r, k))
    (hs : (hh.map (·.1)).Nodup) : (r.map (·.1)).Nodup := by
  fun_induction hsetAll nx fvs hh n with
  | case1 => cases h; exact hs
  | case2 _ _ _ _ _ _ _ _ ih => exact ih h hs
  | case3 _ _ _ _ _ _ _ _ ih | case4 _ _ _ _ _ _ ih => exact ih h (ainsert_keys_nodup _ _ _ hs)

theorem hdelAll_fields' {fs : List Bytes} {hh r : List (Bytes × Bytes)} {n k : Nat} (h : hdelAll fs hh n = (r, k))
    (hs : (hh.map (·.1)).Nodup) : (r.map (·.1)).Nodup := by
  fun_induction hdelAll fs hh n with
  | case1 | case2 => cases h; exact hs
  | case3 _ _ _ _ _ _ _ ih => exact ih h (aerase_keys_nodup _ _ hs)
  | case4 _ _ _ _ _ _ ih => exact ih h hs

theorem nodup_fst {p : List Bytes × Nat} {r : List Bytes} {k : Nat} (h : p = (r, k)) (hp : p.1.Nodup) : r.Nodup := by
  subst h; exact hp

theorem nodup_snoc {l : List Bytes} {m : Bytes} (hl : l.Nodup) (hm : ¬ (l.contains m) = true) : (l ++ [m]).Nodup :=
  (List.perm_append_singleton m l).nodup_iff.mpr (List.nodup_cons.mpr ⟨mt List.contains_iff_mem.mpr hm, hl⟩)

theorem plain_distinct : Plain fun _ v => v.distinct := ⟨fun _ _ => trivial, fun _ _ _ => trivial, fun _ _ _ h => h⟩

/-- distinctness along the mutators, storing duplicate-free values only: one lemma per mutator -/
theorem Mut.distinct {c : Ctx} {db d : Db} (h : Mut (fun _ v => v.distinct) c db d) (hi : db.Distinct) : d.Distinct := by
  induction h with
  | refl => exact hi
  | put k v e _ hv ih => exact distinct_put _ k v e ih hv
  | del k _ ih => exact distinct_del _ k ih
  | setDirty _ ih => exact distinct_setDirty _ ih
  | upd k e v _ hv ih => exact distinct_upd _ _ k e v ih hv
  | touch k e' _ hb _ hv ih =>
    exact distinct_dirtyUnlessQuirk _ _ (distinct_poke _ k e' (hb ▸ distinct_bump _ _ _ ih :) hv)
  | unlink k e _ _ hv ih => exact distinct_poke _ k e ih hv

/-- every command function keeps sets and hashes duplicate-free: the `plain` ones by `CmdFn.eff`; the ten that build
    aggregates store what `saddAll`, `sremAll`, `hsetAll`, `hdelAll`, `ainsert`, the set algebra make of duplicate-free
    ones -/
theorem CmdFn.distinct {c : Ctx} {cmd : Cmd} {f : Db → R} (hf : CmdFn c cmd f) (db : Db) (h : db.Distinct) :
    (f db).db.Distinct := by
  by_cases hpl : cmd.plain = true
  · exact (hf.eff plain_distinct (.inl hpl) db h.toForall).step.distinct h
  have hdb := h.toForall   -- what `mutation` knows of the values a lookup found
  cases hf <;> first | exact absurd rfl hpl | dsimp only
  case push =>
    fun_cases cmdPush <;> mut_leaf Mut.distinct (c := c)
    all_goals first | trivial | exact fun _ => trivial
  case lmove =>
    fun_cases cmdLMove
    case case8 db1 db2 _ _ _ _ _ _ hb =>
      -- whatever the first half left, the second pokes a list into it
      have h2 : db2.Distinct := by
        simp only [db2, db1]; refine Mut.distinct (c := c) ?_ h; mutation
        all_goals first | trivial | exact fun _ => trivial
      exact distinct_setDirty _ (distinct_poke _ _ _ (hb ▸ distinct_bump _ _ _ h2 :) trivial)
    all_goals mut_leaf Mut.distinct (c := c)
    all_goals first | trivial | exact fun _ => trivial
  case hset =>
    fun_cases cmdHSet <;> mut_leaf Mut.distinct (c := c)
    · exact hsetAll_fields' (hh := []) (by assumption) .nil
    all_goals exact fun _ => hsetAll_fields' (by assumption) (hashOf_distinct h (by assumption))
  case hdel =>
    fun_cases cmdHDel <;> mut_leaf Mut.distinct (c := c)
    exact fun _ => hdelAll_fields' (by assumption) (hashOf_distinct h (by assumption))
  case hincrby =>
    fun_cases cmdHIncrBy <;> mut_leaf Mut.distinct (c := c)
    · exact List.pairwise_singleton _ _
    all_goals exact fun _ => ainsert_keys_nodup _ _ _ (hashOf_distinct h (by assumption))
  case hincrbyfloat =>
    fun_cases cmdHIncrByFloat <;> mut_leaf Mut.distinct (c := c)
    · exact List.pairwise_singleton _ _
    all_goals first
      | exact ainsert_keys_nodup _ _ _ (hashOf_distinct h (by assumption))
      | exact fun _ => ainsert_keys_nodup _ _ _ (hashOf_distinct h (by assumption))
  case sadd =>
    fun_cases cmdSAdd <;> mut_leaf Mut.distinct (c := c)
    · exact nodup_fst (by assumption) (saddAll_nodup _ _ _ .nil)
    · exact fun _ => nodup_fst (by assumption) (saddAll_nodup _ _ _ (setOf_distinct h (by assumption)))
  case srem =>
    fun_cases cmdSRem <;> mut_leaf Mut.distinct (c := c)
    exact fun _ => nodup_fst (by assumption) (sremAll_nodup _ _ _ (setOf_distinct h (by assumption)))
  case smove =>
    fun_cases cmdSMove <;> mut_leaf Mut.distinct (c := c)
    · exact List.pairwise_singleton _ _
    · exact fun _ => nodup_snoc (setOf_distinct h (by assumption)) (by assumption)
    · exact fun _ => (setOf_distinct h (by assumption)).erase _
  case salgStore =>
    fun_cases cmdSetAlgebraStore <;> mut_leaf Mut.distinct (c := c)
    exact setAlgebra_nodup _ _ _ _ _ _ h (by assumption)

def State.DInv (s : State) : Prop := ∀ r, (s.getDb r).Distinct

theorem dinv_init : ({} : State).DInv := fun _ => distinct_init

/-- **A set never holds a member twice, a hash never a field twice** — after any command, with any
    arguments, in every database of the server. -/
theorem runCmd_distinct (c : Ctx) (s : State) (conn ref : Nat) (m : Bool) (cmd : Cmd)
    (hs : s.DInv) : (runCmd c s conn ref m cmd).st.DInv :=
  runCmd_dbwise (Rel := fun _ _ d' => d'.Distinct) c s conn ref m cmd (fun _ r => hs r)
    (fun _ => ⟨by simp [flushed]⟩) (fun _ hf => hf.distinct _ (hs ref))

theorem runEvents_distinct (evs : List Ev) : ∀ (s : State), s.DInv → (runEvents s evs).DInv := fun s hs =>
  runEvents_keeps (P := State.DInv) (Q := fun _ => True)
    (fun e s _ hs => runCmd_distinct e.c s e.conn e.ref e.inMulti e.cmd hs) evs (fun _ _ => trivial) s hs

/-- in every reachable state SCARD is the number of different members: the stored set of a live key
    has no repeated member (so SADD / SREM / SISMEMBER / the set algebra see a mathematical set) -/
theorem reachable_sets_are_sets (evs : List Ev) (r : Nat) (k : Bytes) (e : Entry) (now : Int) (members : List Bytes)
    (h : ((runEvents {} evs).getDb r).live now k = some e) (hv : e.val = .set members) : members.Nodup :=
  (hv ▸ live_distinct (runEvents_distinct evs {} dinv_init r) h :)

/-- **SRANDMEMBER.** `m` are the members of the set as the model stores them (no member twice, C05's
    `Db.Distinct`), `bs` any bucket table holding exactly those members, `rs` whatever `rand.Intn` delivers.
    If the selection comes to an end, the reply is one member (no count), min(n, SCARD) distinct members
    (count n ≥ 0), or exactly |n| members with repeats allowed (count n < 0) — `validateRandom`, the same
    predicate the correspondence run applies to every SRANDMEMBER reply of the implementation. -/
theorem srandmember_reply (m : List Bytes) (bs : Buckets) (count : Option Int) (rs : List Nat) (v : Value)
    (hd : m.Nodup) (hb : bs.members.Perm m) (h : randReply bs count rs = some v) :
    validateRandom m count v = true :=
  random_reply_valid_of_perm m bs count rs v hd hb h

/-- a positive count: distinct members, as many as asked for or all of them -/
theorem srandmember_positive_count (bs : Buckets) (n : Nat) (rs is : List Nat) (hm : bs.members.Nodup)
    (h : pickUnique bs n rs = some is) :
    (keysAt bs is).Nodup ∧ (keysAt bs is).length = min n bs.members.length ∧ ∀ k ∈ keysAt bs is, k ∈ bs.members :=
  pickUnique_keys bs n rs is hm h

/-- a negative count: exactly |count| members, repeats allowed -/
theorem srandmember_negative_count (bs : Buckets) (n : Nat) (rs is : List Nat) (h : pickRandom bs n rs = some is) :
    (keysAt bs is).length = n ∧ ∀ k ∈ keysAt bs is, k ∈ bs.members :=
  pickRandom_keys bs n rs is h

/-- non-vacuity: a table of four buckets with three members; a sequence that hits an empty bucket and
    a bucket twice; count 5 gives the three members, count -4 gives four with a repeat -/
theorem srandmember_examples :
    let bs : Buckets := [some [97], none, some [98], some [99]]
    randReply bs (some 5) [1, 0, 0, 2, 1, 3, 3] = some (.array [.bulk [97], .bulk [98], .bulk [99]]) ∧
    randReply bs (some (-4)) [1, 0, 0, 2, 1, 3] = some (.array [.bulk [97], .bulk [97], .bulk [98], .bulk [99]]) ∧
    randReply bs none [5, 6] = some (.bulk [98]) ∧
    randReply bs (some 2) [1, 1, 1] = none := by
  refine ⟨rfl, rfl, rfl, rfl⟩

/-- SINTERCARD of two sets: the number of members of the first that the second has too, cut at LIMIT when
    LIMIT is positive; nothing is changed -/
theorem sintercard_two (c : Ctx) (db : Db) (k1 k2 : Bytes) (e1 e2 : Entry) (s1 s2 : List Bytes) (limit : Int)
    (h1 : setOf c db k1 = .ok (some (e1, s1))) (h2 : setOf c db k2 = .ok (some (e2, s2))) :
    cmdSInterCard c db 2 [k1, k2] limit =
      R.ok db (vInt (if limit > 0 && limit.toNat < (s1.filter (s2.contains ·)).length then limit.toNat
                     else (s1.filter (s2.contains ·)).length)) := by
  simp [cmdSInterCard, cmdSInterCard.collect, h1, h2]

/-- a missing key among the operands makes the intersection empty -/
theorem sintercard_missing (c : Ctx) (db : Db) (k1 k2 : Bytes) (e1 : Entry) (s1 : List Bytes) (limit : Int)
    (h1 : setOf c db k1 = .ok (some (e1, s1))) (h2 : setOf c db k2 = .ok none) :
    cmdSInterCard c db 2 [k1, k2] limit = R.ok db (.int 0) := by
  simp [cmdSInterCard, cmdSInterCard.collect, h1, h2]

/-- SMOVE of a member the source has, to another set: it leaves the source, the destination has it, reply 1;
    a member the source does not have: nothing happens, reply 0 -/
theorem smove_absent (c : Ctx) (db : Db) (src dst m : Bytes) (se : Entry) (ss : List Bytes)
    (h1 : setOf c db src = .ok (some (se, ss))) (hm : ss.contains m = false) :
    cmdSMove c db src dst m = R.ok db (.int 0) := by
  simp only [cmdSMove, h1, hm, Bool.not_false, if_true]

theorem smove_wrongtype_destination_inert (c : Ctx) (db : Db) (src dst m : Bytes) (se : Entry) (ss : List Bytes)
    (h1 : setOf c db src = .ok (some (se, ss))) (hm : ss.contains m = true) (hne : (src == dst) = false)
    (h2 : setOf c db dst = .error ()) :
    cmdSMove c db src dst m = R.ok db wrongType := by
  simp only [cmdSMove, h1, hm, hne, h2, Bool.not_true, Bool.false_eq_true, if_false]

end RedisEmu
