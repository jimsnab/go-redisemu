import RedisEmu.Proofs.Run
import Mathlib.Tactic.SplitIfs
/-
  C14 — databases, flushes, per-connection session state (family `db` of the correspondence run).
-/
namespace RedisEmu

/-- an out-of-range index is rejected and nothing changes (in particular the selection) -/
theorem select_out_of_range (c : Ctx) (s : State) (conn ref : Nat) (m : Bool) (i : Int) (h : i < 0 ∨ i > 15) :
    (runCmd c s conn ref m (.select i)).st = s ∧ (runCmd c s conn ref m (.select i)).reply = errDbRange := by
  unfold runCmd
  have : (decide (i < 0) || decide (i > 15)) = true := by
    rcases h with h | h <;> simp [h]
  simp [this]

/-- an index 0…15 is accepted: the connection now addresses that index, no data changes -/
theorem select_in_range (c : Ctx) (s : State) (conn ref : Nat) (m : Bool) (i : Int) (h0 : 0 ≤ i) (h1 : i ≤ 15) :
    let o := runCmd c s conn ref m (.select i)
    o.reply = vOK ∧ (o.st.session conn).dbIdx = i.toNat ∧
    (∀ r, (s.heap.any (·.1 == r)) = true → o.st.getDb r = s.getDb r) := by
  unfold runCmd
  have : (decide (i < 0) || decide (i > 15)) = false := by
    simp; omega
  simp only [this, Bool.false_eq_true, ↓reduceIte]
  exact ⟨trivial, by simp, fun r _ => (getDb_setSession ..).trans (getDb_tableRef ..)⟩

theorem flushall_empties_everything (c : Ctx) (s : State) (conn ref : Nat) (m : Bool)
    (hq : c.q.flushDetaches = false) :
    ∀ r, (((runCmd c s conn ref m .flushall).st.getDb r).keys = []) := by
  intro r
  unfold runCmd
  simp only [hq, Bool.false_eq_true, ↓reduceIte]
  exact congrArg Db.keys (getDb_mapHeap flushed rfl s r)

/-- D42 on the model of the unrepaired code: after FLUSHDB by another connection the first
    connection still reads its key -/
theorem flush_detaches_witness :
    let c : Ctx := { q := { Quirks.none with flushDetaches := true }, now := 0 }
    let s0 := (State.init.connect 1 1).connect 2 2
    let s1 := (dispatchParsed c s0 1 [] (.set [107] [118] {} false)).st     -- conn 1: SET k v
    let s2 := (dispatchParsed c s1 2 [] .flushdb).st                         -- conn 2: FLUSHDB
    (dispatchParsed c s2 1 [] (.get [107])).reply.bulk? = some [118] := by   -- conn 1: GET k → "v"
  decide +kernel

theorem flush_visible_to_all_witness :
    let c : Ctx := { q := Quirks.none, now := 0 }
    let s0 := (State.init.connect 1 1).connect 2 2
    let s1 := (dispatchParsed c s0 1 [] (.set [107] [118] {} false)).st
    let s2 := (dispatchParsed c s1 2 [] .flushdb).st
    (dispatchParsed c s2 1 [] (.get [107])).reply.isNil = true := by
  decide +kernel

/-- protocol version, client name, selected database, queue and watches of another connection are
    not changed by the session-level commands of this one -/
theorem session_private (c : Ctx) (s : State) (conn conn' ref : Nat) (m : Bool) (v : Int) (nm : Bytes)
    (h : (conn == conn') = false) :
    ((runCmd c s conn ref m (.hello (some v))).st.session conn' = s.session conn') ∧
    ((runCmd c s conn ref m (.clientSetname nm)).st.session conn' = s.session conn') ∧
    ((runCmd c s conn ref m .unwatch).st.session conn' = s.session conn') := by
  refine ⟨?_, ?_, ?_⟩
  · unfold runCmd; simp only; split_ifs <;> first | rfl | exact session_setSession_ne _ _ _ _ h
  · unfold runCmd; simp only; split_ifs <;> first | rfl | exact session_setSession_ne _ _ _ _ h
  · unfold runCmd; exact session_setSession_ne _ _ _ _ h

/-- HELLO with an unsupported version is refused and changes nothing (repaired behaviour) -/
theorem hello_unsupported_refused (c : Ctx) (s : State) (conn ref : Nat) (m : Bool) (v : Int)
    (hq : c.q.helloAnyVersion = false) (hv : v ≠ 2 ∧ v ≠ 3) :
    (runCmd c s conn ref m (.hello (some v))).st = s ∧
    (runCmd c s conn ref m (.hello (some v))).reply.isError = true := by
  unfold runCmd
  simp [hq, hv.1, hv.2, Value.isError]

/-- HELLO 2 / HELLO 3 switch exactly this connection's protocol -/
theorem hello_switches (c : Ctx) (s : State) (conn ref : Nat) (m : Bool) (v : Int) (hv : v = 2 ∨ v = 3) :
    ((runCmd c s conn ref m (.hello (some v))).st.session conn).resp = v := by
  unfold runCmd
  rcases hv with h | h <;> subst h <;> simp

structure Local (s : State) (ref : Nat) (o : Out) : Prop where
  others : ∀ r, (ref == r) = false → o.st.getDb r = s.getDb r
  sessions : o.st.sessions = s.sessions
  table : o.st.table = s.table

theorem onDb_local (s : State) (ref : Nat) (f : Db → R) : Local s ref (onDb s ref f) :=
  ⟨fun r h => by rw [getDb_onDb, h]; rfl, rfl, rfl⟩

/-- **A data command touches nothing but its own database.** Every command that is not a session or
    server command — any arguments, any state — leaves every other database, every connection's session
    (selected database, protocol, name, queue, watches) and the table of databases exactly as they were. -/
theorem data_command_local (c : Ctx) (s : State) (conn ref : Nat) (m : Bool) (cmd : Cmd)
    (hs : cmd.isSession = false) : Local s ref (runCmd c s conn ref m cmd) :=
  runCmd_cases (P := Local s ref) c s conn ref m cmd (fun f _ => onDb_local s ref f)
    (fun _ _ => ⟨fun _ _ => rfl, rfl, rfl⟩) (fun h => absurd h (by simp [hs]))

/-- … and what it answers and does there depends on nothing but that database: two servers that agree
    on it get the same reply and end with the same database. -/
theorem data_command_depends_on_own_db (c : Ctx) (s s' : State) (conn ref : Nat) (m : Bool) (cmd : Cmd)
    (hs : cmd.isSession = false) (hdb : s.getDb ref = s'.getDb ref) :
    (runCmd c s conn ref m cmd).reply = (runCmd c s' conn ref m cmd).reply ∧
    (runCmd c s conn ref m cmd).st.getDb ref = (runCmd c s' conn ref m cmd).st.getDb ref := by
  refine runCmd_cases₂ (P := fun o o' => o.reply = o'.reply ∧ o.st.getDb ref = o'.st.getDb ref) c s s' conn ref m cmd
    (fun f _ => ?_) (fun _ _ => ⟨rfl, hdb⟩) (fun h => absurd h (by simp [hs]))
  rw [getDb_onDb, getDb_onDb]
  unfold onDb
  rw [hdb]
  exact ⟨rfl, rfl⟩

/-! ### SELECT inside a transaction (D25) -/

/-- the transaction `MULTI / SELECT 1 / SET k v / EXEC` of connection 1, then `GET k` by connection 2,
    which stays in database 0 -/
def selectInMulti (q : Quirks) : Out :=
  let c : Ctx := { q := q, now := 0 }
  let s0 := (State.init.connect 1 1).connect 2 2
  let s1 := (dispatch c s0 1 [sb "MULTI"]).st
  let s2 := (dispatch c s1 1 [sb "SELECT", sb "1"]).st
  let s3 := (dispatch c s2 1 [sb "SET", sb "k", sb "v"]).st
  let s4 := (dispatch c s3 1 [sb "EXEC"]).st
  dispatch c s4 2 [sb "GET", sb "k"]

/-- as the property asks: the SET runs in the database the transaction has selected by then, so a
    connection in database 0 does not see the key -/
theorem select_in_multi_binds_following_commands : (selectInMulti Quirks.none).reply.isNil = true := by
  decide +kernel

/-- D25 (known finding, the tree as it is): the SET was bound to database 0 when it was queued and
    writes there although the connection has selected database 1 by the time it runs -/
theorem select_in_multi_witness :
    (selectInMulti { Quirks.none with multiBindsAtQueue := true }).reply.bulk? = some (sb "v") := by
  decide +kernel

/-- for every transaction, with the quirk off: each queued command runs on the database its connection
    has selected at that moment (`Queued.ref` is the current selection, whatever was recorded) -/
theorem queued_ref_is_current_selection (x : Queued) (q : Quirks) (cur : Nat) (h : q.multiBindsAtQueue = false) :
    x.ref q cur = cur := by
  simp [Queued.ref, h]

end RedisEmu
