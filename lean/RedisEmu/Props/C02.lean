import RedisEmu.Exec
import RedisEmu.Proofs.GoArithStr
import Mathlib.Tactic.SplitIfs
/-
  C02 — string and counter commands.
  Theorems about the executable model `RedisEmu.Cmds` (tied to the Go code by the
  correspondence harness, family `str`). `c.q` is the quirk set; a statement that fails with a
  quirk on carries the hypothesis that the quirk is off (here only `append_existing`, D04, repaired in /repo; the
  violation with the quirk on is `append_drops_deadline_witness` in C07).
-/
namespace RedisEmu

/-- The Go test `(newVal > value) != (delta > 0)` on wrapped int64 arithmetic is exactly
    "the true sum leaves the int64 range", for every value and every increment. -/
theorem addInt_overflow_iff (v d : Int) (hv : inRange64 v = true) (hd : inRange64 d = true) :
    goAddOverflow v d = true ↔ inRange64 (v + d) = false := by
  rw [inRange64_iff] at hv hd
  rw [← Bool.not_eq_true, inRange64_iff]
  unfold goAddOverflow wrap64 twoP63 twoP64
  -- the sum of two int64 is off by at most one multiple of 2^64: it wraps to the other side of `v`
  by_cases h1 : d > 0 <;> simp only [h1, decide_true, decide_false, bne_iff_ne, ne_eq, decide_eq_true_eq,
    decide_eq_false_iff_not] <;> omega

theorem addInt_in_range (v d : Int) (hv : inRange64 v = true) (hd : inRange64 d = true)
    (hin : inRange64 (v + d) = true) : goAddOverflow v d = false := by
  rw [← Bool.not_eq_true, addInt_overflow_iff v d hv hd, hin]; decide

theorem addInt_result (v d : Int) (hv : inRange64 v = true) (hd : inRange64 d = true)
    (h : goAddOverflow v d = false) : wrap64 (v + d) = v + d := by
  apply wrap64_of_inRange
  rw [← Bool.not_eq_false, ← addInt_overflow_iff v d hv hd, h]; decide

/-- INCRBY on a key holding an integer: an overflowing sum is refused and nothing changes. -/
theorem incrby_overflow_refused (c : Ctx) (db : Db) (k b : Bytes) (e : Entry) (v d : Int)
    (hlive : db.live c.now k = some e) (hval : e.val = .str b) (hparse : parseInt64 b = some v)
    (hv : inRange64 v = true) (hd : inRange64 d = true) (hov : inRange64 (v + d) = false) :
    (cmdIncrBy c db k d).db = db ∧ (cmdIncrBy c db k d).reply = errNotInt := by
  have hgo := (addInt_overflow_iff v d hv hd).mpr hov
  unfold cmdIncrBy
  simp [hlive, hval, hparse, hgo, R.ok]

/-- INCRBY on a key holding an integer, sum in range: the reply is the sum and the value is its
    decimal rendering, with the deadline kept. -/
theorem incrby_in_range (c : Ctx) (db : Db) (k b : Bytes) (e : Entry) (v d : Int)
    (hlive : db.live c.now k = some e) (hval : e.val = .str b) (hparse : parseInt64 b = some v)
    (hv : inRange64 v = true) (hd : inRange64 d = true) (hin : inRange64 (v + d) = true) :
    (cmdIncrBy c db k d).reply = .int (v + d) ∧
    (cmdIncrBy c db k d).db = db.put k (.str (showInt (v + d))) e.exp := by
  unfold cmdIncrBy
  simp [hlive, hval, hparse, addInt_in_range v d hv hd hin, R.ok, wrap64_of_inRange hin]

/-- a value that is not a decimal int64 is refused without any change -/
theorem incrby_non_integer_refused (c : Ctx) (db : Db) (k b : Bytes) (e : Entry) (d : Int)
    (hlive : db.live c.now k = some e) (hval : e.val = .str b) (hparse : parseInt64 b = none) :
    (cmdIncrBy c db k d).db = db ∧ (cmdIncrBy c db k d).reply = errNotInt := by
  unfold cmdIncrBy
  simp [hlive, hval, hparse, R.ok]

/-- a key of another type is refused with WRONGTYPE without any change -/
theorem incrby_wrongtype (c : Ctx) (db : Db) (k : Bytes) (e : Entry) (d : Int)
    (hlive : db.live c.now k = some e) (hval : ∀ b, e.val ≠ .str b) :
    (cmdIncrBy c db k d).db = db ∧ (cmdIncrBy c db k d).reply = wrongType := by
  unfold cmdIncrBy
  cases hv : e.val with
  | str b => exact absurd hv (hval b)
  | _ => simp [hlive, hv, R.ok]

/-! ### MSETNX is all-or-nothing -/

theorem msetnx_none (c : Ctx) (db : Db) (kvs : List (Bytes × Bytes))
    (h : kvs.any (fun (k, _) => (db.live c.now k).isSome) = true) :
    (cmdMSet c db kvs true).db = db ∧ (cmdMSet c db kvs true).reply = .int 0 := by
  unfold cmdMSet
  simp only [↓reduceIte]
  rw [if_pos h]
  exact ⟨rfl, rfl⟩

theorem msetnx_all (c : Ctx) (db : Db) (kvs : List (Bytes × Bytes))
    (h : kvs.any (fun (k, _) => (db.live c.now k).isSome) = false) :
    (cmdMSet c db kvs true).db = putAll db kvs ∧ (cmdMSet c db kvs true).reply = .int 1 := by
  unfold cmdMSet
  simp only [↓reduceIte]
  rw [if_neg (by simp [h])]
  exact ⟨rfl, rfl⟩

/-- for every length and every pair of (possibly negative, possibly huge) offsets the
    computed window lies inside the string: `0 ≤ start ≤ n` and `start - 1 ≤ stop < n`
    (an empty window is `stop = start - 1`). -/
theorem getrange_window (n start stop : Int) (hn : 0 ≤ n) :
    0 ≤ (getRangeBounds n start stop).1 ∧ (getRangeBounds n start stop).1 ≤ n ∧
    (getRangeBounds n start stop).1 - 1 ≤ (getRangeBounds n start stop).2 ∧
    (getRangeBounds n start stop).2 < n := by
  unfold getRangeBounds
  generalize (if start < 0 then n + start else start) = s
  generalize (if stop < 0 then n + stop else stop) = e
  simp only
  split_ifs <;> omega

theorem getrange_identity (n start stop : Int) (h1 : 0 ≤ start) (h2 : start ≤ stop) (h3 : stop < n) :
    getRangeBounds n start stop = (start, stop) := by
  unfold getRangeBounds
  simp only [show ¬ start < 0 by omega, show ¬ stop < 0 by omega, show ¬ start > n by omega,
    show ¬ stop < start by omega, show ¬ stop ≥ n by omega, ↓reduceIte]

theorem getrange_negative (n start stop : Int) (h1 : -n ≤ start) (h2 : start ≤ stop) (h3 : stop < 0) :
    getRangeBounds n start stop = (n + start, n + stop) := by
  unfold getRangeBounds
  simp only [show start < 0 by omega, h3, show ¬ n + start < 0 by omega, show ¬ n + start > n by omega,
    show ¬ n + stop < n + start by omega, show ¬ n + stop ≥ n by omega, ↓reduceIte]

/-- The condition under which `addInt` (INCR / DECR / INCRBY / DECRBY) answers "overflow", translated from
    the Go source by `tools/go2lean`: for all int64 values and increments it holds exactly when the true
    sum leaves the int64 range. -/
theorem addInt_guard_as_coded (v d : BitVec 64) :
    Go.addIntOverflowGuard v d = true ↔ inRange64 (v.toInt + d.toInt) = false := by
  rw [go_addIntOverflowGuard]
  exact addInt_overflow_iff v.toInt d.toInt (inRange64_toInt v) (inRange64_toInt d)

/-- the guard is a real one: it fires on some inputs and not on others -/
theorem addInt_guard_nontrivial :
    Go.addIntOverflowGuard (BitVec.ofInt 64 9223372036854775807) 1#64 = true ∧
    Go.addIntOverflowGuard 5#64 (BitVec.ofInt 64 (-7)) = false := by decide

/-- the bytes SETRANGE stores (existing string `b`, offset `off`, new bytes `v`) -/
def setRangeBytes (b : Bytes) (off : Nat) (v : Bytes) : Bytes :=
  let padded := if b.length < off then b ++ List.replicate (off - b.length) 0 else b
  padded.take off ++ v ++ padded.drop (off + v.length)

theorem splice_spec {α} (l v : List α) (off : Nat) (h : off ≤ l.length) :
    (l.take off ++ v ++ l.drop (off + v.length)).length = max l.length (off + v.length) ∧
    (∀ p, p < off → (l.take off ++ v ++ l.drop (off + v.length))[p]? = l[p]?) ∧
    (∀ p, off ≤ p → p < off + v.length → (l.take off ++ v ++ l.drop (off + v.length))[p]? = v[p - off]?) ∧
    (∀ p, off + v.length ≤ p → (l.take off ++ v ++ l.drop (off + v.length))[p]? = l[p]?) := by
  have ht : (l.take off).length = off := by rw [List.length_take]; omega
  refine ⟨by simp only [List.length_append, ht, List.length_drop]; omega, fun p hp => ?_, fun p h1 h2 => ?_, fun p h1 => ?_⟩
  · rw [List.append_assoc, List.getElem?_append_left (by omega), List.getElem?_take_of_lt hp]
  · rw [List.getElem?_append_left (by simp only [List.length_append, ht]; omega), List.getElem?_append_right (by omega), ht]
  · rw [List.getElem?_append_right (by simp only [List.length_append, ht]; omega), List.getElem?_drop]
    congr 1; simp only [List.length_append, ht]; omega

/-- **SETRANGE byte by byte**, for every offset and every value: the written range holds the new bytes,
    everything before it keeps the old bytes — zero bytes where the old string was shorter — and everything
    after it is kept; the length is the larger of the old length and the end of the written range. -/
theorem setRangeBytes_spec (b : Bytes) (off : Nat) (v : Bytes) :
    (setRangeBytes b off v).length = max b.length (off + v.length) ∧
    (∀ p, p < off → (setRangeBytes b off v)[p]? = some (b.getD p 0)) ∧
    (∀ p, off ≤ p → p < off + v.length → (setRangeBytes b off v)[p]? = v[p - off]?) ∧
    (∀ p, off + v.length ≤ p → (setRangeBytes b off v)[p]? = b[p]?) := by
  -- the old string padded with zeros up to `off` (no padding when it is long enough)
  have hpad : (if b.length < off then b ++ List.replicate (off - b.length) 0 else b) =
      b ++ List.replicate (off - b.length) 0 := by
    split_ifs with h
    · rfl
    · rw [Nat.sub_eq_zero_of_le (by omega), List.replicate_zero, List.append_nil]
  have hget : ∀ p, (b ++ List.replicate (off - b.length) (0 : UInt8))[p]? =
      if p < b.length then b[p]? else if p < off then some 0 else none := by
    intro p
    rw [List.getElem?_append, List.getElem?_replicate]
    split_ifs <;> first | rfl | omega
  obtain ⟨h1, h2, h3, h4⟩ := splice_spec (b ++ List.replicate (off - b.length) 0) v off (by simp; omega)
  simp only [setRangeBytes, hpad]
  refine ⟨by rw [h1]; simp; omega, fun p hp => ?_, h3, fun p hp => ?_⟩
  · rw [h2 p hp, hget, List.getD_eq_getElem?_getD]
    split_ifs with hb
    · rw [List.getElem?_eq_getElem hb]; rfl
    · rw [List.getElem?_eq_none (by omega)]; rfl
  · rw [h4 p hp, hget]
    split_ifs with hb
    · rfl
    · omega
    · rw [List.getElem?_eq_none (by omega)]

/-- SETRANGE stores exactly these bytes, keeps the deadline and answers the new length -/
theorem setrange_stores (c : Ctx) (db : Db) (k b v : Bytes) (ent : Entry) (off : Int)
    (h0 : 0 ≤ off) (h1 : ¬ (off > hugeAlloc || off + v.length > hugeAlloc) = true)
    (hl : db.live c.now k = some ent) (hv : ent.val = .str b) :
    cmdSetRange c db k off v =
      R.ok (db.put k (.str (setRangeBytes b off.toNat v)) ent.exp) (vInt (setRangeBytes b off.toNat v).length) := by
  unfold cmdSetRange setRangeBytes
  have a0 : ¬ (off < 0) := by omega
  simp only [a0, ↓reduceIte, h1, Bool.false_eq_true, hl, hv]

theorem append_existing (c : Ctx) (db : Db) (k b v : Bytes) (ent : Entry)
    (hl : db.live c.now k = some ent) (hv : ent.val = .str b) (hq : c.q.appendDropsTtl = false) :
    cmdAppend c db k v = R.ok (db.put k (.str (b ++ v)) ent.exp) (vInt (b.length + v.length)) := by
  unfold cmdAppend setKey
  simp [hl, hv, hq]

theorem append_missing (c : Ctx) (db : Db) (k v : Bytes) (hl : db.live c.now k = none) :
    cmdAppend c db k v = R.ok (db.put k (.str v) none) (vInt v.length) := by
  unfold cmdAppend setKey
  simp [hl]

theorem set_nx_existing (c : Ctx) (db : Db) (k v : Bytes) (ent : Entry) (o : SetOpts)
    (hl : db.live c.now k = some ent) (hnx : o.nx = true) (hg : o.get = false)
    (he : (o.exp.map ExpArg.invalid).getD false = false) :
    cmdSet c db k v o false = R.ok db .nil := by
  unfold cmdSet setKey
  simp [hl, hnx, hg, he, optV]

theorem set_xx_missing (c : Ctx) (db : Db) (k v : Bytes) (o : SetOpts)
    (hl : db.live c.now k = none) (hxx : o.xx = true)
    (he : (o.exp.map ExpArg.invalid).getD false = false) :
    cmdSet c db k v o false = R.ok db .nil := by
  unfold cmdSet setKey
  simp [hl, hxx, he, optV]

theorem set_plain (c : Ctx) (db : Db) (k v : Bytes) :
    cmdSet c db k v {} false = R.ok (db.put k (.str v) none) vOK := by
  unfold cmdSet setKey
  cases hl : db.live c.now k <;> simp [optV]

theorem strlen_spec (c : Ctx) (db : Db) (k b : Bytes) (ent : Entry)
    (hl : db.live c.now k = some ent) (hv : ent.val = .str b) :
    cmdStrlen c db k = R.ok db (vInt b.length) := by
  unfold cmdStrlen
  cases ent; simp_all

theorem getdel_spec (c : Ctx) (db : Db) (k b : Bytes) (ent : Entry)
    (hl : db.live c.now k = some ent) (hv : ent.val = .str b) :
    cmdGetDel c db k = R.ok (db.del k) (.bulk b) := by
  unfold cmdGetDel
  cases ent; simp_all

/-- The statements of `fnGetRange` between `n := len(str)` and the slice expression, translated from the Go
    source on this run: for every pair of int64 offsets and every string length they compute the model's
    `getRangeBounds` — the function `getrange_window`, `getrange_identity` and `getrange_negative` are about. -/
theorem getrange_clamp_as_coded (s e n : BitVec 64) (hn : 0 ≤ n.toInt) :
    ((Go.getRangeClamp s e n).1.toInt, (Go.getRangeClamp s e n).2.toInt) = getRangeBounds n.toInt s.toInt e.toInt :=
  go_getRangeClamp s e n hn

/-- … in particular the largest offset there is: `GETRANGE k 0 9223372036854775807` on an 11-byte string reads
    positions 0 … 10 -/
theorem getrange_clamp_maxint :
    Go.getRangeClamp 0#64 (BitVec.ofInt 64 9223372036854775807) 11#64 = (0#64, 10#64) := by decide

/-- The size test of `fnSetRange` (the `if` that answers "string exceeds maximum allowed size (512MB)"), translated on
    this run with `len(value)` as a variable, is the test of the model's `cmdSetRange` for every int64 offset and every
    length below 2^62: Go's wrapped `offset + len` is the true sum whenever the first disjunct has not fired. -/
theorem setrange_size_guard_as_coded (o l : BitVec 64) (hl : 0 ≤ l.toInt) (hl2 : l.toInt < 4611686018427387904) :
    Go.setrangeSizeGuard o l = (decide (o.toInt > hugeAlloc) || decide (o.toInt + l.toInt > hugeAlloc)) :=
  go_setrangeSizeGuard o l hl hl2

/-- this property's part of what the translator delivered on this run -/
theorem go_arith_translated_str : ["getRangeClamp", "addIntOverflowGuard", "setrangeSizeGuard"].all (Go.translated.contains ·) = true := by decide

end RedisEmu
