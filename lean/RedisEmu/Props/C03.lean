import RedisEmu.Exec
import RedisEmu.Proofs.GoArithList
import Mathlib.Tactic.SplitIfs
/-
  C03 — list commands. Theorems about `RedisEmu.Cmds` (family `list` of the correspondence run).
-/
namespace RedisEmu

theorem lrangeOf_nat (l : List Bytes) (start stop : Int) (a b : Nat)
    (ha : (if start < 0 then (l.length : Int) + start else start) = a)
    (hb : (if stop < 0 then (l.length : Int) + stop else stop) = b) (hab : a ≤ b) :
    lrangeOf l start stop = (l.drop a).take (b - a + 1) := by
  simp only [lrangeOf, ha, hb, show ¬ (a : Int) < 0 by omega, show ¬ (b : Int) < a by omega, ↓reduceIte,
    Int.toNat_natCast, show ((b : Int) - a + 1).toNat = b - a + 1 by omega]

/-- `LRANGE k 0 -1` is the whole list -/
theorem lrange_all (l : List Bytes) : lrangeOf l 0 (-1) = l := by
  cases l with
  | nil => rfl
  | cons x r =>
    rw [lrangeOf_nat _ 0 (-1) 0 r.length (by simp) (by simp; omega) (Nat.zero_le _)]
    simp

/-- in-range non-negative indexes select exactly the elements `start … stop` -/
theorem lrange_in_range (l : List Bytes) (s e : Nat) (h1 : s ≤ e) (h2 : e < l.length) :
    lrangeOf l s e = (l.drop s).take (e - s + 1) :=
  lrangeOf_nat l s e s e (if_neg (by omega)) (if_neg (by omega)) h1

/-- negative indexes count from the tail: `-1` is the last element -/
theorem lrange_negative (l : List Bytes) (s e : Nat) (h0 : 1 ≤ e) (h1 : e ≤ s) (h2 : s ≤ l.length) :
    lrangeOf l (-(s : Int)) (-(e : Int)) = (l.drop (l.length - s)).take (s - e + 1) := by
  rw [lrangeOf_nat l _ _ (l.length - s) (l.length - e) (by rw [if_pos (by omega)]; omega)
    (by rw [if_pos (by omega)]; omega) (by omega)]
  congr 1; omega

/-- whatever the indexes, LRANGE returns a contiguous piece of the list, in list order -/
theorem lrange_infix (l : List Bytes) (start stop : Int) : lrangeOf l start stop <:+: l := by
  rw [lrangeOf_bounds]
  split_ifs
  · exact List.nil_infix
  · exact (List.take_prefix _ _).isInfix.trans (List.drop_suffix _ _).isInfix

/-- LTRIM keeps exactly what LRANGE with the same arguments shows — for all `Int` arguments -/
theorem ltrim_eq_lrange (l : List Bytes) (start stop : Int) : ltrimOf l start stop = lrangeOf l start stop := by
  simp only [ltrimOf, lrangeOf]
  generalize (if start < 0 then (l.length : Int) + start else start) = s
  generalize (if stop < 0 then (l.length : Int) + stop else stop) = e
  by_cases hs : s > l.length
  · -- a start beyond the end: nothing is left to drop from, whatever the stop
    simp only [hs, show ¬ s < 0 by omega, ↓reduceIte]
    split_ifs <;> simp only [List.drop_eq_nil_of_le (show l.length ≤ s.toNat by omega), List.take_nil, Int.toNat_natCast,
      List.drop_length]
  · simp only [hs, ↓reduceIte]
    generalize hs' : (if s < 0 then 0 else s) = a
    have ha : 0 ≤ a ∧ a ≤ l.length := by rw [← hs']; split_ifs <;> omega
    -- a stop beyond the end takes everything that is there either way
    split_ifs <;> first
      | rfl
      | rw [List.take_of_length_le (by rw [List.length_drop]; omega), List.take_of_length_le (by rw [List.length_drop]; omega)]

/-- what LMOVE k k does to the element sequence -/
def rotateSelf (l : List Bytes) (srcLeft dstLeft : Bool) : List Bytes :=
  match (if srcLeft then l.head? else l.getLast?) with
  | none => l
  | some x =>
    let rest := if srcLeft then l.drop 1 else l.dropLast
    if dstLeft then x :: rest else rest ++ [x]

/-- the rotation is a permutation: no element lost, none duplicated — for every list, including
    the one-element list on which the unrepaired code loses the element (D09) -/
theorem rotateSelf_perm (l : List Bytes) (a b : Bool) : (rotateSelf l a b).Perm l := by
  -- whichever end the element is taken from, it and the rest make up the list …
  have hsrc : ∀ y, (if a then l.head? else l.getLast?) = some y →
      (y :: (if a then l.drop 1 else l.dropLast)).Perm l := by
    intro y hy
    cases a
    · obtain ⟨r, rfl⟩ := List.getLast?_eq_some_iff.mp hy
      simpa using (List.perm_append_singleton y r).symm
    · obtain ⟨r, rfl⟩ := List.head?_eq_some_iff.mp hy
      exact .refl _
  -- … and it is put back at one end or the other
  unfold rotateSelf
  cases h : (if a then l.head? else l.getLast?) with
  | none => exact .refl l
  | some y =>
    cases b
    · exact (List.perm_append_singleton y _).trans (hsrc y h)
    · exact hsrc y h

/-- LMOVE k k on a live list: the reply is the moved element and the key holds the rotation
    (a one-element list is left exactly as it was) -/
theorem lmove_self_rotates (c : Ctx) (db : Db) (k : Bytes) (e : Entry) (l : List Bytes) (a b : Bool)
    (hq : c.q.lmoveSelfSingleLoses = false)
    (hl : listOf c db k = .ok (some (e, l))) (hne : l ≠ []) :
    ∃ x, (cmdLMove c db k k a b).reply = .bulk x ∧
         (cmdLMove c db k k a b).db =
           (if (if a then l.drop 1 else l.dropLast).isEmpty then db else upd c db k e (.list (rotateSelf l a b))) := by
  obtain ⟨x, hx⟩ : ∃ x, (if a then l.head? else l.getLast?) = some x := by
    cases a
    · exact ⟨_, List.getLast?_eq_some_getLast hne⟩
    · exact ⟨_, List.head?_eq_some_head hne⟩
  refine ⟨x, ?_⟩
  unfold cmdLMove rotateSelf
  simp only [hl, hx, hq, beq_self_eq_true, ↓reduceIte, Bool.and_false, Bool.false_eq_true]
  split_ifs <;> exact ⟨rfl, rfl⟩

theorem rotateSelf_single (x : Bytes) (a b : Bool) : rotateSelf [x] a b = [x] := by
  cases a <;> cases b <;> simp [rotateSelf]

/-- the one-element witness of D09 on the model of the unrepaired code: the element is lost -/
theorem lmove_self_single_witness :
    let c : Ctx := { q := { Quirks.none with lmoveSelfSingleLoses := true }, now := 0 }
    -- key "l" holding ["a"]
    let db := ({} : Db).put [108] (.list [[97]]) none
    ((cmdLMove c db [108] [108] true false).db.raw [108]).isNone = true := by
  decide

/-- RPUSH on a live list appends in argument order; LPUSH prepends in reverse argument order -/
theorem push_content (c : Ctx) (db : Db) (k : Bytes) (e : Entry) (l vs : List Bytes) (left x : Bool)
    (hl : listOf c db k = .ok (some (e, l))) :
    (cmdPush c db k vs left x).db = upd c db k e (.list (if left then vs.reverse ++ l else l ++ vs)) ∧
    (cmdPush c db k vs left x).reply = vInt (vs.length + l.length) := by
  unfold cmdPush
  simp only [hl]
  cases left <;> simp [vInt, Nat.add_comm]

/-- LPOP without count on a live non-empty list returns the head and keeps the tail in order -/
theorem lpop_head (c : Ctx) (db : Db) (k : Bytes) (e : Entry) (x : Bytes) (xs : List Bytes)
    (hl : listOf c db k = .ok (some (e, x :: xs))) :
    (cmdPop c db k none true).reply = .bulk x ∧ (cmdPop c db k none true).db = upd c db k e (.list xs) := by
  unfold cmdPop cmdPop.go
  simp [hl, R.ok]

/-- LREM never reorders: what remains is a sublist of the original -/
theorem removeN_sublist (v : Bytes) (n : Nat) (l : List Bytes) : (removeN v n l).1.Sublist l := by
  fun_induction removeN v n l with
  | case1 l => exact .refl l
  | case2 => exact .refl []
  -- the head is removed (`case3`) or kept (`case4`); `e : removeN v _ r = (r', k)`
  | case3 n x r _ r' k e ih => rw [e] at ih; exact ih.trans (List.sublist_cons_self x r)
  | case4 n x r _ r' k e ih => rw [e] at ih; exact ih.cons_cons x

/-- … and the number of removed elements is the number reported -/
theorem removeN_length (v : Bytes) (n : Nat) (l : List Bytes) :
    (removeN v n l).1.length + (removeN v n l).2 = l.length := by
  fun_induction removeN v n l with
  | case1 | case2 => rfl
  | case3 n x r _ r' k e ih | case4 n x r _ r' k e ih =>
    rw [e] at ih; simp only [List.length_cons] at ih ⊢; omega

/-- LINDEX for every integer index: positions 0 … n-1 from the head, -1 … -n from the tail, nil outside -/
theorem lindex_spec (c : Ctx) (db : Db) (k : Bytes) (e : Entry) (l : List Bytes) (i : Int)
    (h : listOf c db k = .ok (some (e, l))) :
    (∀ p : Nat, p < l.length → i = p → (cmdLIndex c db k i).reply = (match l[p]? with | some x => .bulk x | none => .nil)) ∧
    (∀ p : Nat, 1 ≤ p → p ≤ l.length → i = -(p : Int) →
        (cmdLIndex c db k i).reply = (match l[l.length - p]? with | some x => .bulk x | none => .nil)) ∧
    (i ≥ (l.length : Int) ∨ i < -(l.length : Int) → (cmdLIndex c db k i).reply = .nil) ∧
    (cmdLIndex c db k i).db = db := by
  unfold cmdLIndex
  simp only [h, Bool.or_eq_true, decide_eq_true_eq]
  refine ⟨fun p hp hi => ?_, fun p h1 h2 hi => ?_, fun hi => ?_, by split_ifs <;> rfl⟩
  · subst hi
    simp only [show (p : Int) ≥ 0 by omega, show ¬ ((p : Int) < 0 ∨ (p : Int) ≥ l.length) by omega, ↓reduceIte,
      Int.toNat_natCast]
    rfl
  · subst hi
    simp only [show ¬ -(p : Int) ≥ 0 by omega,
      show ¬ ((l.length : Int) + -(p : Int) < 0 ∨ (l.length : Int) + -(p : Int) ≥ l.length) by omega, ↓reduceIte,
      show ((l.length : Int) + -(p : Int)).toNat = l.length - p by omega]
    rfl
  · by_cases h0 : i ≥ 0
    · simp only [h0, show i < 0 ∨ i ≥ l.length by omega, ↓reduceIte]; rfl
    · simp only [h0, show (l.length : Int) + i < 0 ∨ (l.length : Int) + i ≥ l.length by omega, ↓reduceIte]; rfl

/-- LINSERT: the new element goes next to the FIRST occurrence of the pivot, everything else keeps its
    place; without the pivot nothing happens -/
theorem insertAt_spec (l : List Bytes) (pivot v : Bytes) (before : Bool) :
    (insertAt l pivot v before = none ↔ pivot ∉ l) ∧
    (∀ l', insertAt l pivot v before = some l' →
      ∃ a b, l = a ++ pivot :: b ∧ pivot ∉ a ∧
        l' = (if before then a ++ v :: pivot :: b else a ++ pivot :: v :: b)) := by
  fun_induction insertAt l pivot v before with
  | case1 => simp
  | case2 x r h =>
    obtain rfl : x = pivot := by simpa using h
    exact ⟨by simp, fun l' hl' => ⟨[], r, rfl, by simp, by cases before <;> simp_all⟩⟩
  | case3 x r h ih =>
    have hx : pivot ≠ x := fun e => h (by simp [e])
    refine ⟨by simp [ih.1, hx], fun l' hl' => ?_⟩
    obtain ⟨m, hm, rfl⟩ := Option.map_eq_some_iff.mp hl'
    obtain ⟨a, b, rfl, h2, rfl⟩ := ih.2 m hm
    exact ⟨x :: a, b, rfl, by simp [hx, h2], by cases before <;> rfl⟩

theorem linsert_reply (c : Ctx) (db : Db) (k pivot v : Bytes) (before : Bool) (e : Entry) (l : List Bytes)
    (h : listOf c db k = .ok (some (e, l))) :
    (pivot ∈ l → (cmdLInsert c db k before pivot v).reply = vInt (l.length + 1)) ∧
    (pivot ∉ l → (cmdLInsert c db k before pivot v).reply = .int (-1) ∧ (cmdLInsert c db k before pivot v).db = db) := by
  unfold cmdLInsert
  simp only [h]
  constructor
  · intro hm
    cases hi : insertAt l pivot v before with
    | none => exact absurd hm ((insertAt_spec l pivot v before).1.mp hi)
    | some l' =>
      obtain ⟨a, b, h1, _, h3⟩ := (insertAt_spec l pivot v before).2 l' hi
      simp only [R.ok]
      subst h3; subst h1
      cases before <;> simp [vInt] <;> omega
  · intro hm
    rw [(insertAt_spec l pivot v before).1.mpr hm]
    simp [R.ok]

/-- LSET: position `i` (counted from the tail when negative) gets the new value, every other position keeps
    its element, the length stays -/
theorem lset_positions (l : List Bytes) (j : Nat) (v : Bytes) (p : Nat) :
    (l.set j v).length = l.length ∧ (p ≠ j → (l.set j v)[p]? = l[p]?) ∧ (j < l.length → (l.set j v)[j]? = some v) :=
  ⟨List.length_set, fun h => List.getElem?_set_ne (Ne.symm h), fun h => List.getElem?_set_self h⟩

/-- The statements of `lrange` between its comments "convert negative indexes" and "find the start item",
    translated from the Go source on this run, compute for every pair of int64 indexes and every list length the
    bounds `lrangeOf` walks between (`lrangeOf_bounds`) — the function `lrange_all`, `lrange_in_range`,
    `lrange_negative` and `lrange_infix` are about. -/
theorem lrange_clamp_as_coded (s e n : BitVec 64) (hn : 0 ≤ n.toInt) :
    ((Go.lrangeClamp s e n).1.toInt, (Go.lrangeClamp s e n).2.toInt) = lrangeBounds n.toInt s.toInt e.toInt :=
  go_lrangeClamp s e n hn

/-- … and the statements of `ltrim` before its loops compute the positions `ltrimOf` keeps (`ltrimOf_bounds`),
    which are what LRANGE shows (`ltrim_eq_lrange`) -/
theorem ltrim_clamp_as_coded (s e n : BitVec 64) (hn : 0 ≤ n.toInt) :
    ((Go.ltrimClamp s e n).1.toInt, (Go.ltrimClamp s e n).2.toInt) = ltrimBounds n.toInt s.toInt e.toInt :=
  go_ltrimClamp s e n hn

/-- this property's part of what the translator delivered on this run -/
theorem go_arith_translated_list : ["lrangeClamp", "ltrimClamp"].all (Go.translated.contains ·) = true := by decide

end RedisEmu
