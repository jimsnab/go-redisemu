import RedisEmu.Persist
import RedisEmu.Proofs.Mut
import Mathlib.Tactic.SplitIfs
/-
  C19 — persistence. Theorems about `RedisEmu.Persist` (save protocol) and about the dirty bit of
  `RedisEmu.Cmds` (tied to the Go code by the `persist` tool: real save / restart cycles and crash
  copies taken at every stage of every snapshot file, and by the SAVE pseudo-operation of `corr`,
  which compares the dirty bit of every database after every few commands).
-/
namespace RedisEmu

theorem load_snapshot (db : Db) : db.snapshot.load.keys = db.keys ∧ db.snapshot.load.nextId = db.nextId ∧
    db.snapshot.load.dirty = false := ⟨rfl, rfl, rfl⟩

/-- every lookup — live or raw, at any time — answers the same on the restored database -/
theorem restored_lookups (db : Db) (now : Int) (k : Bytes) :
    db.snapshot.load.live now k = db.live now k ∧ db.snapshot.load.raw k = db.raw k := ⟨rfl, rfl⟩

theorem tmp_ne (name : String) : (tmpOf name == name) = false := by
  unfold tmpOf
  simp only [beq_eq_false_iff_ne, ne_eq]
  intro h
  have := congrArg String.length h
  simp [String.length_append] at this

theorem find_filter_ne (fs : FS) (a b : String) (h : (a == b) = false) :
    (fs.filter (·.1 != a)).find? (·.1 == b) = fs.find? (·.1 == b) := by
  induction fs with
  | nil => rfl
  | cons p r ih =>
    rw [List.filter_cons, List.find?_cons]
    cases hp : p.1 != a
    · rw [eq_of_beq (by simpa using hp : (p.1 == a) = true), h]; exact ih
    · rw [if_pos rfl, List.find?_cons, ih]

theorem get_put_ne (fs : FS) (a b : String) (c : FileContent) (h : (a == b) = false) :
    (fs.put a c).get b = fs.get b := by
  unfold FS.put FS.get
  rw [List.find?_cons, h, find_filter_ne fs a b h]

theorem get_put_self (fs : FS) (a : String) (c : FileContent) : (fs.put a c).get a = some c := by
  unfold FS.put FS.get; simp

theorem get_remove_ne (fs : FS) (a b : String) (h : (a == b) = false) : (fs.remove a).get b = fs.get b := by
  unfold FS.remove FS.get
  rw [find_filter_ne fs a b h]

theorem step_keeps_snapshot (name : String) (s : Snapshot) (fs : FS) (st : SaveStep) (h : st ≠ .rename) :
    (applyStep name s fs st).load name = fs.load name := by
  unfold FS.load
  cases st with
  | rename => exact absurd rfl h
  | createTmp | writeSome | closeTmp => simp only [applyStep]; rw [get_put_ne _ _ _ _ (tmp_ne name)]

theorem rename_loads (name : String) (s : Snapshot) (fs : FS) : (applyStep name s fs .rename).load name = .ok s := by
  unfold FS.load
  simp only [applyStep]
  rw [get_remove_ne _ _ _ (tmp_ne name), get_put_self]

theorem runSteps_atomic (name : String) (s : Snapshot) (l : List SaveStep) (fs : FS) :
    (runSteps name s l fs).load name = fs.load name ∨ (runSteps name s l fs).load name = .ok s := by
  induction l generalizing fs with
  | nil => exact .inl rfl
  | cons st r ih =>
    by_cases h : st = .rename
    · exact .inr ((ih _).elim (·.trans (h ▸ rename_loads name s fs)) id)
    · exact (ih _).imp_left (·.trans (step_keeps_snapshot name s fs st h))

/-- **Crash atomicity.** Whatever prefix of the save protocol has been executed when the process dies,
    a restart loads the database from its file either exactly as before the save began or exactly as
    the new snapshot — never a partial, mixed or empty one. -/
theorem crash_atomic (name : String) (s : Snapshot) (fs : FS) (n : Nat) :
    (runSteps name s (saveSteps.take n) fs).load name = fs.load name ∨
    (runSteps name s (saveSteps.take n) fs).load name = .ok s :=
  runSteps_atomic name s _ fs

/-- the other databases' files are not touched by saving this one -/
theorem save_other_files_untouched (name other : String) (s : Snapshot) (fs : FS) (n : Nat)
    (h1 : (name == other) = false) (h2 : (tmpOf name == other) = false) :
    (runSteps name s (saveSteps.take n) fs).get other = fs.get other := by
  have hstep : ∀ fs' st, (applyStep name s fs' st).get other = fs'.get other := by
    intro fs' st
    cases st <;> simp only [applyStep]
    case rename => rw [get_remove_ne _ _ _ h2, get_put_ne _ _ _ _ h1]
    all_goals exact get_put_ne _ _ _ _ h2
  generalize saveSteps.take n = l
  induction l generalizing fs with
  | nil => rfl
  | cons st r ih => simp only [runSteps]; rw [ih, hstep]

/-! ### the dirty bit is complete: a changed keyspace is a dirty database -/

theorem put_dirty (db : Db) (k : Bytes) (v : Val) (e : Option Int) : (db.put k v e).dirty = true := rfl

theorem del_changed_dirty (db : Db) (k : Bytes) (h : (db.del k).keys ≠ db.keys) : (db.del k).dirty = true := by
  unfold Db.del at *
  cases hr : db.raw k with
  | none => simp [hr] at h
  | some e => simp

theorem update_dirty (db : Db) (k : Bytes) (e : Entry) (v : Val) : (db.update k e v).dirty = true :=
  update_cases (P := fun d => d.dirty = true) db k e v (fun _ => rfl) (fun _ => rfl)

theorem upd_dirty (c : Ctx) (db : Db) (k : Bytes) (e : Entry) (v : Val) : (upd c db k e v).dirty = true :=
  update_dirty ..

theorem dirtyUnlessQuirk_dirty {c : Ctx} (hq : c.q.dirtyIncomplete = false) (d : Db) :
    (dirtyUnlessQuirk c d).dirty = true := by
  unfold dirtyUnlessQuirk; rw [hq]; rfl

/-- with the repaired behaviour (quirk off) the deadline-only changes mark it dirty too -/
theorem expire_dirty (c : Ctx) (db : Db) (k : Bytes) (dl : Int) (opt : ExpireOpt)
    (hq : c.q.dirtyIncomplete = false) (h : (cmdExpireAt c db k dl opt).reply = .int 1) :
    (cmdExpireAt c db k dl opt).db.dirty = true := by
  revert h
  fun_cases cmdExpireAt c db k dl opt <;> intro h
  case case3 => exact dirtyUnlessQuirk_dirty hq _    -- the one branch that answers 1
  all_goals cases h

theorem persist_dirty (c : Ctx) (db : Db) (k : Bytes)
    (hq : c.q.dirtyIncomplete = false) (h : (cmdPersist c db k).reply = .int 1) :
    (cmdPersist c db k).db.dirty = true := by
  revert h
  fun_cases cmdPersist c db k <;> intro h
  case case3 => exact dirtyUnlessQuirk_dirty hq _    -- the one branch that answers 1
  all_goals cases h

theorem lset_dirty (c : Ctx) (db : Db) (k v : Bytes) (i : Int)
    (hq : c.q.dirtyIncomplete = false) (h : (cmdLSet c db k i v).reply = vOK) :
    (cmdLSet c db k i v).db.dirty = true := by
  revert h
  fun_cases cmdLSet c db k i v <;> intro h
  case case4 => exact dirtyUnlessQuirk_dirty hq _    -- the one branch that answers OK
  all_goals cases h

/-- the saver: a dirty database is written and becomes clean; a clean one is left alone -/
theorem saver_spec (name : String) (db : Db) (fs : FS) :
    (saveIfDirty name db fs).1.dirty = false ∧
    (db.dirty = true → (saveIfDirty name db fs).2.load name = .ok db.snapshot) ∧
    (db.dirty = false → (saveIfDirty name db fs).2 = fs) := by
  unfold saveIfDirty
  refine ⟨?_, ?_, ?_⟩
  · split_ifs with h
    · rfl
    · simpa using h
  · intro h
    simp only [h, ↓reduceIte]
    exact rename_loads ..
  · intro h; simp [h]

def Tracked (db db' : Db) : Prop := db' = db ∨ db'.dirty = true

theorem tracked_refl (db : Db) : Tracked db db := .inl rfl

theorem tracked_trans {a b d : Db} (h1 : Tracked a b) (h2 : Tracked b d) : Tracked a d := by
  rcases h2 with e | e
  · rw [e]; exact h1
  · exact .inr e

theorem tracked_put (db : Db) (k : Bytes) (v : Val) (e : Option Int) : Tracked db (db.put k v e) := .inr rfl

theorem tracked_setDirty (db db' : Db) : Tracked db db'.setDirty := .inr rfl

theorem tracked_del (db : Db) (k : Bytes) : Tracked db (db.del k) := by
  unfold Db.del; split
  · exact .inr rfl
  · exact .inl rfl

theorem tracked_update (db db0 : Db) (k : Bytes) (e : Entry) (v : Val) : Tracked db (db0.update k e v) :=
  Or.inr (update_dirty db0 k e v)

theorem tracked_upd (c : Ctx) (db db0 : Db) (k : Bytes) (e : Entry) (v : Val) : Tracked db (upd c db0 k e v) :=
  .inr (upd_dirty c db0 k e v)

theorem tracked_dirtyUnlessQuirk (c : Ctx) (db db' : Db) (hq : c.q.dirtyIncomplete = false) :
    Tracked db (dirtyUnlessQuirk c db') := .inr (dirtyUnlessQuirk_dirty hq _)

/-- the mutators of the command functions (`Mut`) change nothing unnoticed -/
theorem Mut.tracked {P : Bytes → Val → Prop} {c : Ctx} {db d : Db} (h : Mut P c db d)
    (hq : c.q.dirtyIncomplete = false) (hu : c.q.unlinkKeepsObject = false) : Tracked db d := by
  induction h with
  | refl => exact tracked_refl db
  | put k v e _ _ ih => exact tracked_trans ih (tracked_put ..)
  | del k _ ih => exact tracked_trans ih (tracked_del ..)
  | setDirty => exact tracked_setDirty ..
  | upd => exact tracked_upd ..
  | touch => exact tracked_dirtyUnlessQuirk _ _ _ hq
  | unlink _ _ _ hq' => rw [hu] at hq'; cases hq'

/-- **Nothing changes unnoticed.** Every data command, whatever its arguments and whatever the database
    holds, leaves the connection's database either exactly as it was or marked dirty — so a save that
    writes the dirty databases (`saver_spec`) writes every database that differs from its snapshot. -/
theorem runCmd_tracked (c : Ctx) (s : State) (conn ref : Nat) (m : Bool) (cmd : Cmd)
    (hq : c.q.dirtyIncomplete = false) (hu : c.q.unlinkKeepsObject = false) (hs : cmd.isSession = false) :
    Tracked (s.getDb ref) ((runCmd c s conn ref m cmd).st.getDb ref) := by
  refine runCmd_cases (P := fun o => Tracked (s.getDb ref) (o.st.getDb ref)) c s conn ref m cmd
    (fun f hf => ?_) (fun _ _ => Or.inl rfl) (fun h => absurd h (by simp [hs]))
  rw [getDb_onDb, if_pos (beq_self_eq_true ref)]
  exact (hf.effAny _).step.tracked hq hu

def InSync (db : Db) (fs : FS) (name : String) : Prop :=
  db.dirty = true ∨ fs.load name = .ok db.snapshot

theorem inSync_after_save (name : String) (db : Db) (fs : FS) (h : InSync db fs name) :
    (saveIfDirty name db fs).2.load name = .ok db.snapshot ∧
    (saveIfDirty name db fs).1.snapshot = db.snapshot ∧ (saveIfDirty name db fs).1.dirty = false := by
  obtain ⟨h1, h2, h3⟩ := saver_spec name db fs
  refine ⟨?_, ?_, h1⟩
  · cases hd : db.dirty with
    | true => exact h2 hd
    | false =>
      rw [h3 hd]
      rcases h with h | h
      · rw [hd] at h; cases h
      · exact h
  · unfold saveIfDirty; split_ifs <;> rfl

theorem inSync_step (db db' : Db) (fs : FS) (name : String) (h : InSync db fs name) (ht : Tracked db db') :
    InSync db' fs name := by
  rcases ht with e | e
  · rw [e]; exact h
  · exact Or.inl e

def runData (c : Ctx) (conn ref : Nat) (m : Bool) : State → List Cmd → State
  | s, [] => s
  | s, cmd :: r => runData c conn ref m (runCmd c s conn ref m cmd).st r

/-- **Restart restores the acknowledged state.** Start from a database that is in step with its
    snapshot file (freshly loaded or just saved); run any sequence of data commands; save; restart:
    the loaded database holds exactly the keys, values, deadlines and versions the running one held —
    whichever commands ran, including those that change values in place, and whether or not the
    save wrote anything. -/
theorem restart_restores (c : Ctx) (conn ref : Nat) (m : Bool) (name : String) (fs : FS)
    (hq : c.q.dirtyIncomplete = false) (hu : c.q.unlinkKeepsObject = false)
    (cmds : List Cmd) (hd : ∀ cmd ∈ cmds, cmd.isSession = false) :
    ∀ (s : State), InSync (s.getDb ref) fs name →
      let db := (runData c conn ref m s cmds).getDb ref
      ∃ snap, (saveIfDirty name db fs).2.load name = .ok snap ∧ snap.load.keys = db.keys ∧ snap.load.nextId = db.nextId := by
  induction cmds with
  | nil =>
    intro s h
    simp only [runData]
    exact ⟨_, (inSync_after_save name _ fs h).1, rfl, rfl⟩
  | cons cmd r ih =>
    intro s h
    simp only [runData]
    apply ih (fun x hx => hd x (List.mem_cons_of_mem _ hx))
    exact inSync_step _ _ fs name h (runCmd_tracked c s conn ref m cmd hq hu (hd cmd List.mem_cons_self))

/-- the hypotheses of `restart_restores` are satisfiable: a database that was just changed -/
example : InSync { keys := [([107], { val := .str [118] })], nextId := 1, dirty := true } [] "snap.db0" := Or.inl rfl

end RedisEmu
