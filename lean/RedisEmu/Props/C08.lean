import RedisEmu.Conc
import RedisEmu.LockFacts
import RedisEmu.Props.C16
/-
  C08 — every command is atomic (partial). Commands of the emulator run their shared-state steps
  between one acquisition and one release of the database mutex (`dsc.lock()` … `defer dsc.unlock()`,
  EXEC through `acquireExclusive`). The theorem below is the abstract reason this gives linearizable
  histories: under an exclusive mutex the interleaved execution of the micro-steps of any number of
  threads equals the sequential execution of whole commands in lock-acquisition order. Which handlers
  really keep the lock for all their steps is read off the source on every run (the regenerated locking
  facts, `commands_hold_the_lock_throughout` at the end) and checked dynamically by the `lin` tool (porcupine
  on recorded concurrent histories, invariant workloads); the Go runtime is not modelled.
-/
namespace RedisEmu

variable {σ : Type}

/-- micro-events of threads sharing one mutex and one state -/
inductive MEv (σ : Type) where
  | acq (t : Nat)
  | rel (t : Nat)
  | op (t : Nat) (f : σ → σ)     -- one read-modify-write micro-step of thread t on the shared state

/-- the lock discipline: acquire only when free, release by the holder, steps only by the holder -/
def Disciplined : Option Nat → List (MEv σ) → Prop
  | _, [] => True
  | h, .acq t :: r => h = none ∧ Disciplined (some t) r
  | h, .rel t :: r => h = some t ∧ Disciplined none r
  | h, .op t _ :: r => h = some t ∧ Disciplined h r

/-- what really happens: the micro-steps are applied in trace order -/
def execTrace : σ → List (MEv σ) → σ
  | s, [] => s
  | s, .op _ f :: r => execTrace (f s) r
  | s, _ :: r => execTrace s r

/-- the commands of the trace in lock-acquisition order: (thread, composed effect of its steps).
    `cur` is the section being collected. -/
def commandsOf : Option (Nat × (σ → σ)) → List (MEv σ) → List (Nat × (σ → σ))
  | cur, [] => match cur with | some c => [c] | none => []
  | _, .acq t :: r => commandsOf (some (t, id)) r
  | cur, .rel _ :: r => (match cur with | some c => [c] | none => []) ++ commandsOf none r
  | cur, .op t f :: r =>
    match cur with
    | some (t', g) => if t = t' then commandsOf (some (t', f ∘ g)) r else commandsOf cur r   -- foreign steps are not part of the command
    | none => commandsOf none r

def execCommands (s : σ) (cs : List (Nat × (σ → σ))) : σ := cs.foldl (fun st c => c.2 st) s

theorem execCommands_append (s : σ) (a b : List (Nat × (σ → σ))) :
    execCommands s (a ++ b) = execCommands (execCommands s a) b :=
  List.foldl_append

theorem commandsOf_op (t : Nat) (f g : σ → σ) (r : List (MEv σ)) :
    commandsOf (some (t, g)) (.op t f :: r) = commandsOf (some (t, f ∘ g)) r :=
  if_pos rfl

/-- Induction over a disciplined trace together with the command being collected. The lock holder is
    the thread of that command, so a step has one of four shapes: an acquisition with no command open, a
    release or a micro-step by the thread of the open command, or the end of the trace. -/
theorem Disciplined.induction {motive : Option (Nat × (σ → σ)) → List (MEv σ) → Prop}
    (nil : ∀ cur, motive cur [])
    (acq : ∀ t r, motive (some (t, id)) r → motive none (.acq t :: r))
    (rel : ∀ t g r, motive none r → motive (some (t, g)) (.rel t :: r))
    (op : ∀ t f g r, motive (some (t, f ∘ g)) r → motive (some (t, g)) (.op t f :: r)) :
    ∀ (tr : List (MEv σ)) (cur : Option (Nat × (σ → σ))), Disciplined (cur.map (·.1)) tr → motive cur tr
  | [], cur, _ => nil cur
  | .acq t :: r, none, h => acq t r (induction nil acq rel op r (some (t, id)) h.2)
  | .acq _ :: _, some _, h => nomatch h.1
  | .rel _ :: r, some (t, g), h => by
    cases Option.some.inj h.1
    exact rel t g r (induction nil acq rel op r none h.2)
  | .rel _ :: _, none, h => nomatch h.1
  | .op _ f :: r, some (t, g), h => by
    cases Option.some.inj h.1
    exact op t f g r (induction nil acq rel op r (some (t, f ∘ g)) h.2)
  | .op _ _ :: _, none, h => nomatch h.1

/-- the statement below for a trace that starts inside a command: with the steps of the open command composed
    to `g`, the trace continues from `g s` -/
theorem interleaving_from : ∀ (tr : List (MEv σ)) (cur : Option (Nat × (σ → σ))),
    Disciplined (cur.map (·.1)) tr →
    ∀ s, execTrace (cur.elim s (·.2 s)) tr = execCommands s (commandsOf cur tr) := by
  apply Disciplined.induction
  · intro cur s; cases cur <;> rfl
  · intro t r ih s; exact ih s
  · intro t g r ih s; exact ih (g s)
  · intro t f g r ih s; rw [commandsOf_op]; exact ih s

/-- **Atomicity from the lock discipline.** For any number of threads and any interleaving allowed by
    an exclusive mutex, the state reached by the interleaved micro-steps is the state reached by
    executing the commands one at a time, each as a whole, in the order in which they acquired the
    lock. No command observes or leaves a partially applied command. -/
theorem interleaving_is_sequential (s : σ) (tr : List (MEv σ)) (h : Disciplined none tr) :
    execTrace s tr = execCommands s (commandsOf none tr) :=
  interleaving_from tr none h s

def acquisitions : List (MEv σ) → List Nat
  | [] => []
  | .acq t :: r => t :: acquisitions r
  | _ :: r => acquisitions r

theorem acquisition_order_from : ∀ (tr : List (MEv σ)) (cur : Option (Nat × (σ → σ))),
    Disciplined (cur.map (·.1)) tr →
    (commandsOf cur tr).map (·.1) = (cur.map (·.1)).toList ++ acquisitions tr := by
  apply Disciplined.induction
  · intro cur; cases cur <;> rfl
  · intro t r ih; exact ih
  · intro t g r ih; exact congrArg (t :: ·) ih
  · intro t f g r ih; rw [commandsOf_op]; exact ih

/-- the sequential order of `interleaving_is_sequential` is the order of the lock acquisitions: one command per
    acquisition, by the acquiring thread. A connection sends its next command after the reply to the previous one,
    so the commands of one connection appear in the order it issued them. -/
theorem commands_in_acquisition_order (tr : List (MEv σ)) (h : Disciplined none tr) :
    (commandsOf none tr).map (·.1) = acquisitions tr :=
  acquisition_order_from tr none h

def lockAfter : Option Nat → List (MEv σ) → Option Nat
  | h, [] => h
  | _, .acq t :: r => lockAfter (some t) r
  | _, .rel _ :: r => lockAfter none r
  | h, .op _ _ :: r => lockAfter h r

/-- a trace that ends with the lock free leaves no open command to what follows it -/
theorem precedence_from (b : List (MEv σ)) : ∀ (a : List (MEv σ)) (cur : Option (Nat × (σ → σ))),
    Disciplined (cur.map (·.1)) a → lockAfter (cur.map (·.1)) a = none →
    commandsOf cur (a ++ b) = commandsOf cur a ++ commandsOf none b := by
  apply Disciplined.induction
  · intro cur hf; cases cur with
    | none => rfl
    | some c => cases hf
  · intro t r ih hf; exact ih hf
  · intro t g r ih hf; exact congrArg ((t, g) :: ·) (ih hf)
  · intro t f g r ih hf; rw [List.cons_append, commandsOf_op, commandsOf_op]; exact ih hf

/-- **Real-time precedence.** When the lock is free at some point of the trace (every command that began before
    that point has released), the sequential order puts every command of the first part before every command
    of the second part: a command that completed before another began is ordered before it. -/
theorem real_time_precedence (a b : List (MEv σ)) (hd : Disciplined none a) (hfree : lockAfter none a = none) :
    commandsOf none (a ++ b) = commandsOf none a ++ commandsOf none b :=
  precedence_from b a none hd hfree

/-- **Replies.** A reply is computed by a micro-step from the state it sees; with the replies logged in the shared
    state (`σ = S × log`), `interleaving_is_sequential` says the log — every reply every client received, in order —
    is the log of the sequential execution. -/
theorem replies_are_sequential {S ρ : Type} (s : S) (tr : List (MEv (S × List (Nat × ρ)))) (h : Disciplined none tr) :
    (execTrace (s, []) tr).2 = (execCommands (s, []) (commandsOf none tr)).2 := by
  rw [interleaving_is_sequential (s, []) tr h]

/-- non-vacuity: two threads, thread 1 adds 1 and doubles under the lock, thread 2 adds 10 in between the sections;
    the trace is disciplined, the lock is free after the first section, and the order is 1, 2 -/
theorem precedence_example :
    let a : List (MEv Nat) := [.acq 1, .op 1 (· + 1), .op 1 (· * 2), .rel 1]
    let b : List (MEv Nat) := [.acq 2, .op 2 (· + 10), .rel 2]
    Disciplined none (a ++ b) ∧ lockAfter none a = none ∧ acquisitions (a ++ b) = [1, 2] ∧ execTrace 0 (a ++ b) = 12 := by
  simp [Disciplined, lockAfter, acquisitions, execTrace]

/-! ### the premise of `interleaving_is_sequential` on the code: the regenerated locking facts

See `data_layer_lock_discipline` in C16: every function that touches a database takes its lock before
the first touch and holds it until it returns (or is only called with the lock held). The facts are
re-extracted from /repo on every run. -/

theorem commands_hold_the_lock_throughout :
    lockFacts.all (fun f => f.2 != LockKind.unprotected && f.2 != LockKind.locksExplicit) = true := by
  decide

end RedisEmu
