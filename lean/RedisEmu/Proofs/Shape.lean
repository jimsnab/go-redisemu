import RedisEmu.Resp
import RedisEmu.Store
/- The two predicates on reply values of C15, `isResp2` and `replyShape`; they stand here because
   `runCmd_session` (Proofs/State) and `Eff` (Proofs/Mut) speak of them. -/
namespace RedisEmu

mutual
  /-- only RESP2 types: simple string, error, integer, bulk string, nil, array of those -/
  def Value.isResp2 : Value → Bool
    | .simple _ | .error _ | .int _ | .bulk _ | .nil => true
    | .array xs => Value.allResp2 xs
    | _ => false
  def Value.allResp2 : List Value → Bool
    | [] => true
    | x :: xs => x.isResp2 && Value.allResp2 xs
end

mutual
  /-- the reply shapes handlers build: everything except push messages and stream end marks;
      map keys and pair members are scalars (as `nativeValueToResp` produces them) -/
  def Value.replyShape : Value → Bool
    | .push _ _ | .endMark => false
    | .array xs | .set xs => Value.allShape xs
    | .map kvs | .attr kvs => Value.pairsShape kvs
    | .pairs kvs => Value.pairsScalar kvs
    | _ => true
  def Value.allShape : List Value → Bool
    | [] => true
    | x :: xs => x.replyShape && Value.allShape xs
  def Value.pairsShape : List (Value × Value) → Bool
    | [] => true
    | (_, v) :: r => v.replyShape && Value.pairsShape r
  def Value.pairsScalar : List (Value × Value) → Bool
    | [] => true
    | (k, v) :: r => k.isResp2 && v.isResp2 && Value.pairsScalar r
end

/-! `allShape` and `pairsShape` say `replyShape` of every element; what they do on `map`, `++`, `flatMap`,
    `reverse` is then a fact about membership. -/

theorem allShape_iff {l : List Value} : Value.allShape l = true ↔ ∀ x ∈ l, x.replyShape = true := by
  induction l with
  | nil => simp [Value.allShape]
  | cons x r ih => simp [Value.allShape, ih]

theorem pairsShape_iff {l : List (Value × Value)} : Value.pairsShape l = true ↔ ∀ p ∈ l, p.2.replyShape = true := by
  induction l with
  | nil => simp [Value.pairsShape]
  | cons p r ih => simp [Value.pairsShape, ih]

theorem allShape_cons {x : Value} {xs : List Value} (hx : x.replyShape = true) (h : Value.allShape xs = true) :
    Value.allShape (x :: xs) = true := by simp only [Value.allShape, hx, h, Bool.and_self]

theorem allShape_map {α} (f : α → Value) (l : List α) (h : ∀ x, (f x).replyShape = true) :
    Value.allShape (l.map f) = true := allShape_iff.mpr (List.forall_mem_map.mpr fun x _ => h x)

theorem allShape_append (a b : List Value) (ha : Value.allShape a = true) (hb : Value.allShape b = true) :
    Value.allShape (a ++ b) = true :=
  allShape_iff.mpr (List.forall_mem_append.mpr ⟨allShape_iff.mp ha, allShape_iff.mp hb⟩)

theorem allShape_flatMap {α} (l : List α) (f : α → List Value) (h : ∀ x, Value.allShape (f x) = true) :
    Value.allShape (l.flatMap f) = true :=
  allShape_iff.mpr fun x hx => have ⟨a, _, hxa⟩ := List.mem_flatMap.mp hx; allShape_iff.mp (h a) x hxa

theorem allShape_reverse (xs : List Value) (h : Value.allShape xs = true) : Value.allShape xs.reverse = true :=
  allShape_iff.mpr fun x hx => allShape_iff.mp h x (List.mem_reverse.mp hx)

theorem pairsShape_map {α} (f : α → Value × Value) (l : List α) (h : ∀ x, (f x).2.replyShape = true) :
    Value.pairsShape (l.map f) = true := pairsShape_iff.mpr (List.forall_mem_map.mpr fun x _ => h x)

theorem shape_bulks (l : List Bytes) : (bulks l).replyShape = true := allShape_map _ l fun _ => rfl

end RedisEmu
