import RedisEmu.GoArith
import RedisEmu.Dict
import RedisEmu.Proofs.Rev
/- lemmas for the theorems about the translated Go definitions of the dictionary (Props/C17); see
   Proofs/GoArithBase.lean for the header -/
namespace RedisEmu

/-- a rotation by a constant `b`: the shift amounts of the model (`b % 64`, `(64 - b) % 64` on `UInt64`) are
    the numerals `n`, `m` the translation has -/
theorem toBitVec_rotl (x b : UInt64) (n m : Nat) (hn : (b.toBitVec % 64).toNat = n)
    (hm : ((64 - b).toBitVec % 64).toNat = m) : (rotl x b).toBitVec = x.toBitVec <<< n ||| x.toBitVec >>> m := by
  rw [rotl, UInt64.toBitVec_or, UInt64.toBitVec_shiftLeft, UInt64.toBitVec_shiftRight, BitVec.shiftLeft_eq',
    BitVec.ushiftRight_eq', hn, hm]

/-- `bits.Reverse…`: reversing all `w` bits of a word is the model's `rev w` -/
theorem toNat_reverse : ∀ (w : Nat) (x : BitVec w), (BitVec.reverse x).toNat = rev w x.toNat := by
  intro w x
  apply Nat.eq_of_testBit_eq; intro i
  rw [BitVec.testBit_toNat, BitVec.getLsbD_reverse, BitVec.getMsbD_eq_getLsbD, testBit_rev, BitVec.testBit_toNat]

theorem toNat_ofNat_sub (w a b : Nat) (hb : b ≤ a) (ha : a < 2 ^ w) :
    (BitVec.ofNat w a - BitVec.ofNat w b).toNat = a - b := by
  have e : ∀ c ≤ a, (BitVec.ofNat w c).toNat = c := fun c hc =>
    (BitVec.toNat_ofNat c w).trans (Nat.mod_eq_of_lt (Nat.lt_of_le_of_lt hc ha))
  rw [BitVec.toNat_sub_of_le, e a (Nat.le_refl a), e b hb]
  rw [BitVec.le_def, e a (Nat.le_refl a), e b hb]; exact hb

end RedisEmu
