import RedisEmu.Proofs.GoArithBase
import RedisEmu.Bits
import Mathlib.Tactic.IntervalCases   -- no tactic of it is used: with Mathlib's algebra in scope `2 ^ n` elaborates through `Monoid.npow`, the form in which the statements here and in Props/C18 are meant, and `simp` knows Mathlib's facts about powers (`go_signExtend_eq`)
/- theorems about the translated Go definitions (Bits); see Proofs/GoArithBase.lean for the header -/
namespace RedisEmu

theorem toNat_ofNat_sub_one (bits : Nat) (h1 : 1 ≤ bits) (h2 : bits ≤ 64) :
    (BitVec.ofNat 64 bits - 1#64).toNat = bits - 1 := by
  simp only [BitVec.toNat_sub, BitVec.toNat_ofNat]; omega

theorem toNat_ofNat_width (bits : Nat) (h : bits ≤ 64) : (BitVec.ofNat 64 bits).toNat = bits := by
  rw [BitVec.toNat_ofNat]; omega

/-- `1<<k - 1` for `k ≤ 63` is the mask of the low `k` bits … -/
theorem shl_sub_one_eq (k : Nat) (hk : k ≤ 63) : 1#64 <<< k - 1#64 = BitVec.ofNat 64 (2 ^ k - 1) := by
  have hp : 2 ^ k ≤ 2 ^ 63 := Nat.pow_le_pow_right (by decide) hk
  have hpos := Nat.two_pow_pos k
  apply BitVec.eq_of_toNat_eq
  rw [← BitVec.twoPow_eq, BitVec.toNat_sub, BitVec.toNat_twoPow]
  simp only [BitVec.toNat_ofNat]; omega

/-- … and not negative as an int64. With `k = bits - 1` this is the largest value of a signed field — also for
    `bits = 64`, where `signBit` itself is negative and `signBit - 1` wraps round to it. -/
theorem toInt_shl_sub_one (k : Nat) (hk : k ≤ 63) : (1#64 <<< k - 1#64).toInt = 2 ^ k - 1 := by
  have hp : 2 ^ k ≤ 2 ^ 63 := Nat.pow_le_pow_right (by decide) hk
  have hpos := Nat.two_pow_pos k
  rw [shl_sub_one_eq k hk, BitVec.toInt_eq_toNat_of_lt (by rw [BitVec.toNat_ofNat]; omega), BitVec.toNat_ofNat,
    Nat.mod_eq_of_lt (by omega), Int.natCast_sub hpos, Int.natCast_pow]
  rfl

theorem go_isSignedSumOverflow (a b : BitVec 64) (bits : Nat) (h1 : 1 ≤ bits) (h2 : bits ≤ 64)
    (hr : -(2 : Int) ^ (bits - 1) ≤ a.toInt ∧ a.toInt < (2 : Int) ^ (bits - 1)) :
    Go.isSignedSumOverflow a b (BitVec.ofNat 64 bits) = specSignedOverflow a.toInt b.toInt bits := by
  have hM := toInt_shl_sub_one (bits - 1) (by omega)
  have hP : (0 : Int) < 2 ^ (bits - 1) := Int.pow_pos (by decide)
  have hb := toInt_bounds b
  unfold Go.isSignedSumOverflow specSignedOverflow
  simp only [toNat_ofNat_sub_one bits h1 h2, BitVec.slt, BitVec.toInt_zero, decide_eq_true_eq]
  -- `M` is the ceiling `P - 1` and `~~~M` the bottom `-P`; neither `M - b` (b > 0) nor `~~~M - b` (b ≤ 0) wraps
  generalize 1#64 <<< (bits - 1) - 1#64 = M at *
  have hM' := toInt_bounds M
  generalize (2 : Int) ^ (bits - 1) = P at *
  rw [Bool.eq_iff_iff]
  split_ifs with hb0
  · rw [toInt_sub_small M b (by omega) (by omega)]
    simp only [decide_eq_true_eq, Bool.or_eq_true]; omega
  · rw [toInt_sub_small _ b (by rw [toInt_not]; omega) (by rw [toInt_not]; omega), toInt_not]
    simp only [decide_eq_true_eq, Bool.or_eq_true]; omega

theorem go_isUnsignedOverflow (v : BitVec 64) (bits : Nat) (h2 : bits ≤ 63) (hv : 0 ≤ v.toInt) :
    Go.isUnsignedOverflow v (BitVec.ofNat 64 bits) = decide (v.toInt ≥ (2 : Int) ^ bits) := by
  have hp : 2 ^ bits < 2 ^ 64 := Nat.pow_lt_pow_right (by decide) (by omega)
  have hneg : BitVec.slt v 0#64 = false := by simp [BitVec.slt]; omega
  unfold Go.isUnsignedOverflow
  simp only [hneg, Bool.false_eq_true, ↓reduceIte, BitVec.ule, toNat_ofNat_width bits (by omega), ← BitVec.twoPow_eq,
    BitVec.toNat_twoPow, Nat.mod_eq_of_lt hp, toInt_eq_toNat_of_nonneg v hv, ge_iff_le]
  norm_cast

theorem go_saturateValue_signed (v : BitVec 64) (bits : Nat) (h1 : 1 ≤ bits) (h2 : bits ≤ 64) :
    (Go.saturateValue true v (BitVec.ofNat 64 bits)).toInt =
      if v.toInt < 0 then -(2 : Int) ^ (bits - 1) else (2 : Int) ^ (bits - 1) - 1 := by
  have hM := toInt_shl_sub_one (bits - 1) (by omega)
  unfold Go.saturateValue
  simp only [↓reduceIte, BitVec.slt, BitVec.toInt_zero, decide_eq_true_eq, toNat_ofNat_sub_one bits h1 h2]
  split_ifs
  · rw [toInt_not, hM]; omega
  · exact hM

theorem go_saturateValue_unsigned (v : BitVec 64) (bits : Nat) (h2 : bits ≤ 63) :
    (Go.saturateValue false v (BitVec.ofNat 64 bits)).toInt =
      if v.toInt < 0 then 0 else (2 : Int) ^ bits - 1 := by
  unfold Go.saturateValue
  simp only [Bool.false_eq_true, ↓reduceIte, BitVec.slt, BitVec.toInt_zero, decide_eq_true_eq,
    toNat_ofNat_width bits (by omega)]
  split_ifs
  · rfl
  · exact toInt_shl_sub_one bits h2

open BitVec in
theorem go_signExtend_eq (w : Nat) (hw1 : 1 ≤ w) (hw : w ≤ 64) (u : Nat) (hu : u < 2 ^ w) :
    Go.signExtend (BitVec.ofNat 64 u) (BitVec.ofNat 64 w) = (BitVec.ofNat w u).signExtend 64 := by
  have hhigh : ∀ i, w ≤ i → u.testBit i = false := fun i hi =>
    Nat.testBit_lt_two_pow (Nat.lt_of_lt_of_le hu (Nat.pow_le_pow_right (by omega) hi))
  have hw' : w - 1 < 64 := by omega
  have hcond : BitVec.ult 0#64 (BitVec.ofNat 64 u &&& 1#64 <<< (w - 1)) = u.testBit (w - 1) := by
    rw [← BitVec.twoPow_eq, BitVec.and_twoPow, BitVec.getLsbD_ofNat]
    cases u.testBit (w - 1) <;> simp [hw', BitVec.ult, BitVec.toNat_twoPow_of_lt hw']
  unfold Go.signExtend
  simp only [toNat_ofNat_sub_one w hw1 hw, shl_sub_one_eq (w - 1) (by omega : w - 1 ≤ 63), hcond]
  -- bit by bit: below `w - 1` the value's bit, from `w - 1` on the sign bit
  apply BitVec.eq_of_getLsbD_eq
  intro i hi
  simp only [BitVec.getLsbD_signExtend, BitVec.msb_eq_getLsbD_last, apply_ite (BitVec.getLsbD · i), BitVec.getLsbD_or,
    BitVec.getLsbD_not, BitVec.getLsbD_ofNat, Nat.testBit_two_pow_sub_one, hi, decide_true, Bool.true_and,
    show w - 1 < w by omega]
  rcases Nat.lt_trichotomy i (w - 1) with h | rfl | h
  · simp [h, show i < w by omega]
  · cases u.testBit (w - 1) <;> simp
  · cases u.testBit (w - 1) <;> simp [hhigh i (by omega), show ¬ i < w by omega, show ¬ i < w - 1 by omega]

theorem go_signExtend (w : Nat) (hw1 : 1 ≤ w) (hw : w ≤ 64) (u : Nat) (hu : u < 2 ^ w) :
    (Go.signExtend (BitVec.ofNat 64 u) (BitVec.ofNat 64 w)).toInt = toSigned u w := by
  rw [go_signExtend_eq w hw1 hw u hu, BitVec.toInt_signExtend_of_le hw, BitVec.toInt_eq_toNat_cond,
    BitVec.toNat_ofNat, Nat.mod_eq_of_lt hu]
  have hp : 2 ^ w = 2 * 2 ^ (w - 1) := by rw [← Nat.pow_succ']; congr 1; omega
  simp only [toSigned, show w > 0 by omega, decide_true, Bool.true_and, decide_eq_true_eq, Int.natCast_pow,
    Int.cast_ofNat_Int]
  split_ifs <;> first | rfl | omega

/-- the range arithmetic of BITCOUNT: `none` = nothing to count, else the first and last unit (byte or bit) -/
def bitcountBounds (length start stop : Int) : Option (Int × Int) :=
  let start := if start < 0 then length + start else start
  let stop := if stop < 0 then length + stop else stop
  if start ≥ length then none else
  let start := if start < 0 then 0 else start
  if stop < start then none else
  some (start, if stop ≥ length then length - 1 else stop)

theorem go_bitcountClamp (s e n : BitVec 64) (hn : 0 < n.toInt) :
    (match Go.bitcountClamp s e n with
     | (true, _, _) => none
     | (false, a, z) => some (a.toInt, z.toInt)) = bitcountBounds n.toInt s.toInt e.toInt := by
  have vS := toInt_fromEnd n s (by omega); have vE := toInt_fromEnd n e (by omega)
  have vN := toInt_sub_one n (by omega)
  unfold Go.bitcountClamp bitcountBounds
  generalize (if BitVec.slt s 0#64 then n + s else s) = S at *
  generalize (if BitVec.slt e 0#64 then n + e else e) = E at *
  simp only [← vS, ← vE, BitVec.slt, BitVec.sle, BitVec.toInt_zero, decide_eq_true_eq, ge_iff_le]
  -- the code tests `start < 0` first, the model `length ≤ start`: with a positive length at most one of them holds
  by_cases h0 : S.toInt < 0
  · simp only [h0, show ¬ n.toInt ≤ S.toInt by omega, ↓reduceIte]
    split_ifs <;> simp only [vN, BitVec.toInt_zero]
  · simp only [h0, ↓reduceIte]
    split_ifs <;> simp only [vN]

theorem go_bitcountMasks (s e : BitVec 64) (hs : 0 ≤ s.toInt) (he : 0 ≤ e.toInt) :
    (Go.bitcountMasks s e).1.toNat = 2 ^ (8 - s.toNat % 8) - 1 ∧
    (Go.bitcountMasks s e).2.toNat = 256 - 2 ^ (7 - e.toNat % 8) := by
  -- as functions of the position inside the byte: a table of eight entries each
  have key : ∀ a : Fin 8,
      (((BitVec.sshiftRight 256#64 (BitVec.ofNat 64 a.val).toNat) - 1#64).setWidth 8).toNat = 2 ^ (8 - a.val) - 1 ∧
      (255#8 - ((128#8 >>> (BitVec.ofNat 64 a.val).toNat) - 1#8)).toNat = 256 - 2 ^ (7 - a.val) := by decide
  unfold Go.bitcountMasks
  simp only [srem_of_nonneg _ 8#64 hs (by decide), srem_of_nonneg _ 8#64 he (by decide)]
  exact ⟨(key ⟨_, Nat.mod_lt _ (by decide)⟩).1, (key ⟨_, Nat.mod_lt _ (by decide)⟩).2⟩

/-- what the two mask values select: bit position `j` of a byte (0 = most significant) is kept by the first mask iff
    `a ≤ j`, by the second iff `j ≤ a` (the whole finite table) -/
theorem masks_select : ∀ (a j : Fin 8),
    (2 ^ (8 - a.val) - 1).testBit (7 - j.val) = decide (a.val ≤ j.val) ∧
    (256 - 2 ^ (7 - a.val)).testBit (7 - j.val) = decide (j.val ≤ a.val) := by decide

theorem go_setbitOffsetGuard (o : BitVec 64) :
    Go.setbitOffsetGuard o = (decide (o.toInt < 0) || decide (o.toInt ≥ 4294967296)) := by
  simp only [Go.setbitOffsetGuard, BitVec.slt, BitVec.sle, BitVec.toInt_zero,
    show (4294967296#64).toInt = 4294967296 by decide, ge_iff_le]

end RedisEmu
