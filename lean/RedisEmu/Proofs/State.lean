import RedisEmu.Exec
import RedisEmu.Proofs.Shape
namespace RedisEmu

section
variable {α : Type} (l : List (Nat × α)) (c c' : Nat) (x : α)

/-- `setDb` and `setSession` store a value under a number in the same way: in place of the one that is
    there, else at the end. -/
theorem find_store_self :
    ((if l.any (·.1 == c) then l.map fun (i, y) => if i == c then (i, x) else (i, y) else l ++ [(c, x)]).find?
      (·.1 == c)).map (·.2) = some x := by
  split
  · rename_i h
    induction l with
    | nil => cases h
    | cons p r ih =>
      rw [List.map_cons, List.find?_cons]
      cases hp : p.1 == c
      · simp only [hp, Bool.false_eq_true, ↓reduceIte]
        exact ih (by simpa only [List.any_cons, hp, Bool.false_or] using h)
      · simp only [hp, ↓reduceIte, Option.map_some]
  · rename_i h
    rw [List.find?_append, List.find?_eq_none.mpr fun p hp e => h (List.any_eq_true.mpr ⟨p, hp, e⟩)]
    simp only [Option.none_or, List.find?_cons, beq_self_eq_true, Option.map_some]

theorem find_store_ne (h : (c == c') = false) :
    (if l.any (·.1 == c) then l.map fun (i, y) => if i == c then (i, x) else (i, y) else l ++ [(c, x)]).find?
      (·.1 == c') = l.find? (·.1 == c') := by
  split
  · rename_i ha
    clear ha
    induction l with
    | nil => rfl
    | cons p r ih =>
      obtain ⟨i, y⟩ := p
      rw [List.map_cons, List.find?_cons, List.find?_cons, ih]
      cases hp : i == c
      · simp only [hp, Bool.false_eq_true, ↓reduceIte]
      · simp only [eq_of_beq hp, beq_self_eq_true, ↓reduceIte, h]
  · simp only [List.find?_append, List.find?_cons, h, List.find?_nil, Option.or_none]
end

@[simp] theorem session_setSession (s : State) (c : Nat) (x : Session) : (s.setSession c x).session c = x := by
  unfold State.setSession State.session
  rw [find_store_self]; rfl

theorem session_setSession_ne (s : State) (c c' : Nat) (x : Session) (h : (c == c') = false) :
    (s.setSession c x).session c' = s.session c' := by
  unfold State.setSession State.session
  rw [find_store_ne _ _ _ _ h]

@[simp] theorem heap_setSession (s : State) (c : Nat) (x : Session) : (s.setSession c x).heap = s.heap := rfl

@[simp] theorem table_setSession (s : State) (c : Nat) (x : Session) : (s.setSession c x).table = s.table := rfl

theorem getDb_setDb_self (s : State) (r : Nat) (db : Db) : (s.setDb r db).getDb r = db := by
  unfold State.setDb State.getDb
  rw [find_store_self]; rfl

theorem getDb_setDb_ne (s : State) (r r' : Nat) (db : Db) (h : (r == r') = false) :
    (s.setDb r db).getDb r' = s.getDb r' := by
  unfold State.setDb State.getDb
  rw [find_store_ne _ _ _ _ h]

@[simp] theorem sessions_setDb (s : State) (r : Nat) (db : Db) : (s.setDb r db).sessions = s.sessions := rfl

@[simp] theorem table_setDb (s : State) (r : Nat) (db : Db) : (s.setDb r db).table = s.table := rfl

theorem refs_setDb (s : State) (ref : Nat) (d : Db) :
    (s.setDb ref d).heap.map (·.1) =
      if (s.heap.map (·.1)).any (· == ref) then s.heap.map (·.1) else s.heap.map (·.1) ++ [ref] := by
  have e : (s.heap.map (·.1)).any (· == ref) = s.heap.any (·.1 == ref) := by rw [List.any_map]; rfl
  unfold State.setDb
  rw [e]
  split
  · rw [List.map_map]; exact List.map_congr_left fun p _ => by dsimp only [Function.comp]; split <;> rfl
  · simp

theorem getDb_onDb (s : State) (ref r : Nat) (f : Db → R) :
    (onDb s ref f).st.getDb r = if ref == r then (f (s.getDb ref)).db else s.getDb r := by
  unfold onDb
  cases h : ref == r
  · exact getDb_setDb_ne _ _ _ _ h
  · cases eq_of_beq h; exact getDb_setDb_self ..

theorem getDb_setSession (s : State) (c : Nat) (x : Session) (r : Nat) : (s.setSession c x).getDb r = s.getDb r := rfl

/-- a new database object is empty, and `getDb` answers the empty database for a reference that is not there -/
theorem getDb_tableRef (s : State) (i r : Nat) : (s.tableRef i).1.getDb r = s.getDb r := by
  unfold State.tableRef
  split
  · rfl
  · simp only [State.getDb, List.find?_append]
    cases List.find? (fun x => x.1 == r) s.heap with
    | some p => rfl
    | none =>
      simp only [Option.none_or, List.find?_cons, List.find?_nil]
      split <;> rfl

theorem getDb_mapHeap (g : Db → Db) (hg : g {} = {}) (s : State) (r : Nat) :
    ({ s with heap := s.heap.map fun (p : Nat × Db) => (p.1, g p.2) } : State).getDb r = g (s.getDb r) := by
  simp only [State.getDb]
  induction s.heap with
  | nil => exact hg.symm
  | cons p t ih =>
    simp only [List.map_cons, List.find?_cons]
    split
    · rfl
    · exact ih

/-- one command of one connection, with the clock it saw -/
structure Ev where
  c : Ctx
  conn : Nat
  ref : Nat
  inMulti : Bool
  cmd : Cmd

/-- any history: commands of any connections on any databases, in the order the store lock admits them
    (the body of somebody's EXEC is such a run of commands too) -/
def runEvents : State → List Ev → State
  | s, [] => s
  | s, e :: r => runEvents (runCmd e.c s e.conn e.ref e.inMulti e.cmd).st r

theorem runEvents_keeps {P : State → Prop} {Q : Ev → Prop}
    (step : ∀ (e : Ev) s, Q e → P s → P (runCmd e.c s e.conn e.ref e.inMulti e.cmd).st)
    (evs : List Ev) (hq : ∀ e ∈ evs, Q e) (s : State) (h : P s) : P (runEvents s evs) := by
  induction evs generalizing s with
  | nil => exact h
  | cons e r ih =>
    exact ih (fun e' he' => hq e' (List.mem_cons_of_mem _ he')) _ (step e s (hq e List.mem_cons_self) h)

/-- the commands `runCmd` does not hand to `onDb`: they work on the session or the table of databases, answer
    without looking at anything, or only count the keys of the bound database (DBSIZE) -/
def Cmd.isSession : Cmd → Bool
  | .select _ | .flushdb | .flushall | .multi | .exec | .discard | .watch _ | .unwatch
  | .ping _ | .echo _ | .quit | .hello _ | .clientId | .clientGetname | .clientSetname _
  | .clientInfo | .clientList | .dbsize | .opaque _ => true
  | _ => false

/-- what FLUSHDB / FLUSHALL leave of a database: nothing but its version counter -/
def flushed (d : Db) : Db := { keys := [], nextId := d.nextId, dirty := false }

theorem runCmd_session (c : Ctx) (s : State) (conn ref : Nat) (m : Bool) (cmd : Cmd) :
    cmd.isSession = true →
    let o := runCmd c s conn ref m cmd
    o.reply.isResp2 = true ∧ o.crash = none ∧
      ∀ r, o.st.getDb r = s.getDb r ∨ (o.reply = vOK ∧ o.st.getDb r = flushed (s.getDb r)) := by
  fun_cases Cmd.isSession cmd <;> intro hs
  case case20 => cases hs                                            -- no session command
  case case1 =>                                                      -- SELECT: a database object may be created, empty
    dsimp only [runCmd]; split
    · exact ⟨rfl, rfl, fun _ => .inl rfl⟩
    · exact ⟨rfl, rfl, fun r => .inl ((getDb_setSession ..).trans (getDb_tableRef ..))⟩
  case case2 =>                                                      -- FLUSHDB
    dsimp only [runCmd]; split
    -- the unrepaired code (D42) binds a new, empty database object and leaves the old ones as they are
    · exact ⟨rfl, rfl, fun r => .inl ((getDb_setSession ..).trans (getDb_tableRef ..))⟩
    · refine ⟨rfl, rfl, fun r => ?_⟩
      cases h : (s.tableRef (s.session conn).dbIdx).2 == r
      · exact .inl ((getDb_setDb_ne _ _ _ _ h).trans (getDb_tableRef ..))
      · cases eq_of_beq h; exact .inr ⟨rfl, by rw [getDb_setDb_self, getDb_tableRef]; rfl⟩
  case case3 =>                                                      -- FLUSHALL
    dsimp only [runCmd]; split
    · exact ⟨rfl, rfl, fun r => .inl ((getDb_setSession ..).trans (getDb_tableRef ..))⟩
    · exact ⟨rfl, rfl, fun r => .inr ⟨rfl, getDb_mapHeap flushed rfl s r⟩⟩
  case case9 o => cases o <;> exact ⟨rfl, rfl, fun _ => .inl rfl⟩   -- PING with and without a message
  -- the others change the session at most, which `getDb` does not look at
  all_goals first
    | exact ⟨rfl, rfl, fun _ => .inl rfl⟩
    | (dsimp only [runCmd]; (repeat' split) <;> exact ⟨rfl, rfl, fun _ => .inl rfl⟩)

/-- What `dispatchParsed` does with a command: it answers on the spot with a RESP2 value (QUEUED, OK, the errors and
    aborts of MULTI / EXEC / DISCARD), or it runs the command and converts the reply for the connection, or,
    for EXEC, it runs the queue. -/
theorem dispatchParsed_cases {P : Out → Prop} (c : Ctx) (s : State) (conn : Nat) (argv : List Bytes) (cmd : Cmd)
    (plain : ∀ st v, v.isResp2 = true → P { st := st, reply := v })
    (run : ∀ m, P (let o := runCmd c s conn (s.session conn).dbRef m cmd
                   { o with reply := downIf (o.st.session conn).resp c o.reply }))
    (exec : ∀ q s1 vs hs ps crash, execQueue c conn q (implElems c) s [] [] [] = (s1, vs, hs, ps, crash) →
      P { st := if crash.isSome then s1 else
                  s1.setSession conn { s1.session conn with queue := none, watches := [], queueErr := false },
          reply := downIf (s1.session conn).resp c (.array vs), hint := .each hs, crash := crash, pushed := ps }) :
    P (dispatchParsed c s conn argv cmd) := by
  fun_cases dispatchParsed c s conn argv cmd
  case case7 s1 vs hs ps crash he _ _ _ => exact exec _ _ _ _ _ _ he   -- EXEC with a clean queue and no watched key changed
  case case8 | case12 => exact run _                                   -- WATCH inside MULTI; any command outside
  all_goals exact plain _ _ rfl

end RedisEmu
