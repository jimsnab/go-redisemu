import RedisEmu.Dict
import RedisEmu.Proofs.Rev
import Mathlib.Tactic.SplitIfs
/- raw bucket arrays: what `rehash` builds (`rehash_spec`), and when the items of a table stay apart at another size
   (`Sep`: after doubling always, after halving if `pairsFree`) -/
namespace RedisEmu

def slotOf (bs : Array (Option Item)) (i : Nat) : Option Item := (bs[i]?).join

theorem Dict.slot_eq (d : Dict) (i : Nat) : d.slot i = slotOf d.buckets i := rfl

theorem slotOf_set (bs : Array (Option Item)) (j i : Nat) (v : Option Item) (hj : j < bs.size) :
    slotOf (bs.setIfInBounds j v) i = if j = i then v else slotOf bs i := by
  unfold slotOf
  rw [Array.getElem?_setIfInBounds]
  simp only [hj, if_true]
  split <;> rfl

theorem slotOf_replicate (n i : Nat) : slotOf (Array.replicate n none) i = none := by
  unfold slotOf
  rw [Array.getElem?_replicate]
  split_ifs <;> rfl

theorem slotOf_some_lt (bs : Array (Option Item)) (i : Nat) (it : Item) (h : slotOf bs i = some it) :
    i < bs.size := by
  refine Decidable.by_contra fun hi => ?_
  rw [slotOf, Array.getElem?_eq_none (Nat.le_of_not_lt hi)] at h; cases h

theorem slotOf_fin (bs : Array (Option Item)) (i : Fin bs.size) : slotOf bs i.1 = bs[i] := by
  simp [slotOf]

def rehashStep (k' : Nat) (acc : Array (Option Item)) (o : Option Item) : Array (Option Item) :=
  match o with
  | some it => acc.setIfInBounds (bucketOf k' it.hash) (some it)
  | none => acc

theorem rehash_eq (d : Dict) (k' : Nat) :
    rehash d k' = { d with k := k', buckets := d.buckets.foldl (rehashStep k') (Array.replicate (2 ^ k') none) } := rfl

def Sep (k' : Nat) (bs : Array (Option Item)) : Prop :=
  ∀ i j a b, slotOf bs i = some a → slotOf bs j = some b → bucketOf k' a.hash = bucketOf k' b.hash → a = b

/-- **Rebuilding the table at another size.** The new table has `2^k'` buckets; what it holds sits in the bucket
    of its hash and was in the old table; and every item of the old table is in it when no two of them share a
    bucket at the new size (`rehash` lets the later one win). Doubling and halving are the two uses. -/
theorem rehash_spec (d : Dict) (k' : Nat) :
    (rehash d k').buckets.size = 2 ^ k' ∧
    (∀ j it, slotOf (rehash d k').buckets j = some it → bucketOf k' it.hash = j ∧ ∃ i, slotOf d.buckets i = some it) ∧
    (Sep k' d.buckets → ∀ i it, slotOf d.buckets i = some it →
      slotOf (rehash d k').buckets (bucketOf k' it.hash) = some it) := by
  rw [rehash_eq]
  have key := Array.foldl_induction (as := d.buckets)
    (motive := fun n (acc : Array (Option Item)) => acc.size = 2 ^ k' ∧
      (∀ j it, slotOf acc j = some it → bucketOf k' it.hash = j ∧ ∃ i, slotOf d.buckets i = some it) ∧
      (Sep k' d.buckets → ∀ i, i < n → ∀ it, slotOf d.buckets i = some it → slotOf acc (bucketOf k' it.hash) = some it))
    (init := Array.replicate (2 ^ k') none) (f := rehashStep k') ?_ ?_
  · exact ⟨key.1, key.2.1, fun hsep i it h => key.2.2 hsep i (slotOf_some_lt _ _ _ h) it h⟩
  · exact ⟨Array.size_replicate, fun j it h => (by rw [slotOf_replicate] at h; cases h), fun _ i hi => by omega⟩
  · intro n acc ⟨hs, hin, hout⟩
    have hn : slotOf d.buckets n.1 = d.buckets[n] := slotOf_fin d.buckets n
    unfold rehashStep
    cases ho : d.buckets[n] with
    | none =>
      refine ⟨hs, hin, fun hsep i hi it hit => hout hsep i ?_ it hit⟩
      rcases Nat.lt_succ_iff_lt_or_eq.mp hi with h | h
      · exact h
      · rw [h, hn, ho] at hit; cases hit
    | some x =>
      rw [ho] at hn
      refine ⟨by rw [Array.size_setIfInBounds, hs], fun j it hj => ?_, fun hsep i hi it hit => ?_⟩
      · rw [slotOf_set _ _ _ _ (hs ▸ bucketOf_lt k' _)] at hj
        split_ifs at hj with hc
        · cases hj; exact ⟨hc, n.1, hn⟩
        · exact hin j it hj
      · rw [slotOf_set _ _ _ _ (hs ▸ bucketOf_lt k' _)]
        split_ifs with hc
        · rw [hsep _ _ _ _ hn hit hc]  -- what is written now into the bucket of `it` is `it` itself
        · rcases Nat.lt_succ_iff_lt_or_eq.mp hi with h | h
          · exact hout hsep i h it hit
          · rw [h, hn] at hit; cases hit
            exact absurd rfl hc

theorem sep_of_grow (k k' : Nat) (bs : Array (Option Item)) (hk : k ≤ k')
    (place : ∀ i it, slotOf bs i = some it → bucketOf k it.hash = i) : Sep k' bs := by
  intro i j a b ha hb heq
  have h := bucketOf_eq_of_le hk heq
  rw [place i a ha, place j b hb] at h
  rw [h] at ha
  exact Option.some.inj (ha.symm.trans hb)

theorem pairsFree_spec : ∀ (l : List (Option Item)) (i : Nat) (a b : Item), pairsFree l = true → i % 2 = 0 →
    (l[i]?).join = some a → (l[i + 1]?).join = some b → False
  | [], _, _, _, _, _, ha, _ => by simp at ha
  | [_], _, _, _, _, _, _, hb => by simp at hb
  | x :: y :: r, 0, a, b, h, _, ha, hb => by
    simp only [List.getElem?_cons_zero, List.getElem?_cons_succ, Option.join_some] at ha hb
    simp [pairsFree, ha, hb] at h
  | x :: y :: r, 1, _, _, _, hi, _, _ => by cases hi
  | x :: y :: r, i + 2, a, b, h, hi, ha, hb => by
    simp only [pairsFree, Bool.and_eq_true] at h
    exact pairsFree_spec r i a b h.2 (by rwa [Nat.add_mod_right] at hi) ha hb

theorem sep_of_halve (k : Nat) (bs : Array (Option Item))
    (place : ∀ i it, slotOf bs i = some it → bucketOf (k + 1) it.hash = i)
    (hfree : pairsFree bs.toList = true) : Sep k bs := by
  -- two different buckets with the same half are the two halves of one pair
  have pair : ∀ i j a b, slotOf bs i = some a → slotOf bs j = some b → i / 2 = j / 2 → i < j → a = b := by
    intro i j a b ha hb heq h
    obtain rfl : j = i + 1 := by omega
    have toL : ∀ n, (bs.toList[n]?).join = slotOf bs n := fun n => by simp [slotOf]
    exact (pairsFree_spec _ i a b hfree (by omega) (by rwa [toL]) (by rwa [toL])).elim
  intro i j a b ha hb heq
  rw [bucketOf_shrink k 1, bucketOf_shrink k 1 b.hash, place i a ha, place j b hb, Nat.pow_one] at heq
  rcases Nat.lt_trichotomy i j with h | h | h
  · exact pair i j a b ha hb heq h
  · rw [h] at ha; exact Option.some.inj (ha.symm.trans hb)
  · exact (pair j i b a hb ha heq.symm h).symm

theorem growTo_spec (h1 h2 fuel k k' : Nat) (h : growTo h1 h2 fuel k = some k') :
    k < k' ∧ h1 % 2 ^ k' ≠ h2 % 2 ^ k' := by
  fun_induction growTo h1 h2 fuel k with
  | case1 => cases h
  | case2 fuel k hc => cases h; exact ⟨Nat.lt_succ_self k, by simpa using hc⟩
  | case3 fuel k _ ih => exact ⟨Nat.lt_of_succ_lt (ih h).1, (ih h).2⟩

end RedisEmu
