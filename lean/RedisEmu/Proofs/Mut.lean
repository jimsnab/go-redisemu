import RedisEmu.Proofs.Run
import RedisEmu.Proofs.Db
import RedisEmu.Proofs.Shape
/-
  What a command function may do. `Mut P` names the ways the command functions change a database, every value they
  store satisfying `P`; `Eff` sums up one run: the database moved by such steps, an error reply means it did not move,
  no crash outcome, a reply of the shape handlers build. `CmdFn.eff`: every command function has `Eff`, each case by
  analysis along the definition of the function (`fun_cases`: the leaves `R.ok d v` with the path conditions as
  hypotheses) — for any `P` that strings and non-empty lists satisfy (`Plain`), as long as the command stores nothing
  else (`Cmd.plain`: all but ten), and for every command when `P` asks nothing. The property files draw their
  per-command facts from it: versions (C10), the dirty bit (C19), failed commands, crash outcome, reply shape with
  `P` asking nothing; "no empty aggregate" (C06) and "no member twice" (C05) with their own `P`, where only the ten
  commands that are not `plain` are left to them.
-/
namespace RedisEmu

inductive Mut (P : Bytes → Val → Prop) (c : Ctx) (db : Db) : Db → Prop
  | refl : Mut P c db db
  | put {d} (k v e) : Mut P c db d → P k v → Mut P c db (d.put k v e)
  | del {d} (k) : Mut P c db d → Mut P c db (d.del k)
  | setDirty {d} : Mut P c db d → Mut P c db d.setDirty
  | upd {d} (k e v) : Mut P c db d → (v.nonEmpty = true → P k v) → Mut P c db (upd c d k e v)
  /-- a change in place: fresh version from `bump`, dirty mark unless the code forgets it (D47) -/
  | touch {d d1 e e1} (k e') : Mut P c db d → bump c d e = (d1, e1) → e'.id = e1.id → P k e'.val →
      Mut P c db (dirtyUnlessQuirk c (d1.poke k e'))
  /-- UNLINK of the unrepaired code: the object stays, its deadline is moved into the past -/
  | unlink {d} (k e) : Mut P c db d → c.q.unlinkKeepsObject = true → P k e.val → Mut P c db (d.poke k e)

/-- a predicate on stored values that strings and non-empty lists satisfy and that does not look at the key: what
    the command functions store needs no more than this, but for the ten that build hashes and sets or may store an
    empty list (`Cmd.plain`) -/
structure Plain (P : Bytes → Val → Prop) : Prop where
  str : ∀ k b, P k (.str b)
  list : ∀ k l, (Val.list l).nonEmpty = true → P k (.list l)
  move : ∀ k k' v, P k v → P k' v

/-- what holds of every stored value before, and of every value stored since, holds of every stored value -/
theorem Mut.forall {P c db d} (h : Mut P c db d) (hf : db.Forall P) : d.Forall P := by
  induction h with
  | refl => exact hf
  | put k v e _ hv ih => exact ih.put hv e
  | del k _ ih => exact ih.del k
  | setDirty _ ih => exact ih
  | upd k e v _ hv ih => exact ih.upd _ e hv
  | touch k e' _ hb _ hv ih => exact (Db.Forall.poke (hb ▸ ih.bump _ _ :) hv).dirtyUnlessQuirk _
  | unlink k e _ _ hv ih => exact ih.poke hv

structure Eff (P : Bytes → Val → Prop) (c : Ctx) (db : Db) (r : R) : Prop where
  step : Mut P c db r.db
  inert : r.reply.isError = true → r.db = db
  crash : c.q.bitcountEmptyCrash = false → r.crash = none
  shape : r.reply.replyShape = true

theorem Eff.lit {P c db d v h p} (hm : Mut P c db d) (hi : v.isError = true → d = db) (hs : v.replyShape = true) :
    Eff P c db ⟨d, v, h, none, p⟩ := ⟨hm, hi, fun _ => rfl, hs⟩

/-- `Mut P c db d` where `d` is spelled with the mutators over `db`: one rule per constructor, an `if` by `iteInduction`,
    a `match` by `split`; the rules are matched at reducible transparency, so that one that does not fit fails at once
    instead of unfolding `d`. `assumption` is for what the caller knows already: a `Mut` fact about `setKey` or `putAll`
    (`setKey_mut`, `putAll_mut`) put in the context, or an induction hypothesis. There is no rule for `Mut.unlink`:
    its one site, in DEL, is written out (`del_eff`). The stored values (`P k v`): a string or a list by `Plain`, what a
    lookup found by `Db.Forall`, anything where `P` holds of everything; any other is left to the caller. -/
macro "mutation" : tactic => `(tactic| (repeat' (first
  | (with_reducible first
      | exact Mut.refl
      | assumption
      | apply Mut.put
      | apply Mut.del
      | apply Mut.setDirty
      | apply Mut.upd
      | (refine Mut.touch _ _ ?_ (by assumption) (by rfl) ?_)
      | exact Plain.str (by assumption) _ _
      | exact fun hv => Plain.list (by assumption) _ _ hv
      | exact Db.Forall.live (by assumption) (by assumption)
      | exact bump_val' (by assumption) ▸ Db.Forall.live (by assumption) (by assumption)
      | exact Db.Forall.srcLookup (by assumption) (by assumption)
      | exact Plain.move (by assumption) _ _ _ (Db.Forall.srcLookup (by assumption) (by assumption))
      | exact (‹∀ (k : Bytes) (v : Val), _›) _ _
      | exact fun _ => (‹∀ (k : Bytes) (v : Val), _›) _ _
      | exact fun hv => hv
      | (apply iteInduction <;> intro _))
  | split)))

theorem inert_of_ok {d db : Db} {v : Value} (h : v.isError = false) : v.isError = true → d = db :=
  fun h' => by simp [h] at h'

/-- closes `v.isError = true → d = db`: the database is the old one, or the reply is no error -/
macro "inert_leaf" : tactic => `(tactic| first
  | exact fun _ => rfl
  | (apply inert_of_ok; first | rfl | ((repeat' split) <;> rfl)))

/-- `v.replyShape = true` for the replies the command functions build: a literal; an array made by `map` (MGET, HMGET,
    SMISMEMBER: each element a literal, or one of two); the pairs of HGETALL; or, along the `match`es of the reply,
    literals and arrays of bulk strings -/
macro "shape_leaf" : tactic => `(tactic| first
  | rfl
  | exact allShape_map _ _ (fun _ => by first | rfl | (split <;> rfl))
  | exact pairsShape_map _ _ (fun _ => rfl)
  | ((repeat' split) <;> first | rfl | exact shape_bulks _))

/-- a leaf of a command function, an `R` built on the spot; the `let`s on the path are unfolded first, so that the
    database is spelled with the mutators -/
macro "eff_leaf" : tactic => `(tactic| (
  try dsimp +zetaDelta only [put_spelled]
  refine Eff.lit ?_ ?_ ?_
  rotate_left
  · inert_leaf
  · shape_leaf
  mutation))

/-- an invariant of the database at a leaf of a command function, through the lemma `t` that carries it along `Mut`
    (`Mut.inv`, `Mut.distinct`): the database is the old one, or it is spelled with the mutators; goals about the
    values stored that `mutation` has no rule for are left to the caller -/
macro "mut_leaf " t:term : tactic => `(tactic| first
  | assumption
  | (dsimp +zetaDelta only [R.ok]; refine $t ?_ (by assumption); mutation))

section
variable {P : Bytes → Val → Prop} (c : Ctx) (db : Db) (k k2 v : Bytes) (i j : Int) (o : SetOpts) (b b2 : Bool)
  (ks : List Bytes) (kvs : List (Bytes × Bytes)) (oi : Option Int) (n : Nat)

/-- what `setKey` hands back as the reply: nothing, `OK`, or the old string -/
theorem setKey_val (a a2 : Bool) (w : Value) : (setKey c db k v o a a2).2.1 = some w →
    w = vOK ∨ ∃ x, w = .bulk x := by
  fun_cases setKey c db k v o a a2 <;> intro h <;> simp +zetaDelta only [] at h
  all_goals (repeat' split at h)
  all_goals cases h <;> first | exact .inl rfl | exact .inr ⟨_, rfl⟩

/-! The next two (and `setKey_inv`, `setKey_distinct` of C06, C05) speak of `r` with `setKey … = r`: that is the equation
    `fun_cases` leaves on the path of a command function that calls `setKey`, so `‹_›` finds it. -/

variable {c db k v o} in
theorem setKey_reply {a a2 : Bool} {r} (h : setKey c db k v o a a2 = r) :
    (optV r.2.1).isError = false ∧ (optV r.2.1).replyShape = true := by
  subst h
  cases h : (setKey c db k v o a a2).2.1 with
  | none => exact ⟨rfl, rfl⟩
  | some w => rcases setKey_val c db k v o a a2 w h with rfl | ⟨x, rfl⟩ <;> exact ⟨rfl, rfl⟩

variable {c db k v o} in
theorem setKey_mut (hP : Plain P) {a a2 : Bool} {r} (h : setKey c db k v o a a2 = r) : Mut P c db r.1 := by
  subst h; fun_cases setKey c db k v o a a2 <;> mutation

variable (hP : Plain P)
include hP

theorem set_eff : Eff P c db (cmdSet c db k v o b) := by
  fun_cases cmdSet c db k v o b
  case case1 => eff_leaf   -- an expiry that is not valid: `setKey` is not called
  case case4 =>            -- the reply is what `setKey` hands back
    exact Eff.lit (setKey_mut hP ‹_›) (inert_of_ok (setKey_reply ‹_›).1) (setKey_reply ‹_›).2
  all_goals have := setKey_mut hP ‹_›; eff_leaf

theorem append_eff : Eff P c db (cmdAppend c db k v) := by
  fun_cases cmdAppend c db k v
  all_goals have := setKey_mut hP ‹_›; eff_leaf

theorem incrby_eff : Eff P c db (cmdIncrBy c db k i) := by fun_cases cmdIncrBy c db k i <;> eff_leaf

theorem decrby_eff : Eff P c db (cmdDecrBy c db k i) := by
  fun_cases cmdDecrBy c db k i
  · eff_leaf
  · exact incrby_eff (hP := hP) ..

variable {c db} in
theorem putAll_mut {d} (h : Mut P c db d) : Mut P c db (putAll d kvs) := by
  induction kvs generalizing d with
  | nil => exact h
  | cons p r ih => exact ih (h.put _ _ _ (hP.str ..))

theorem mset_eff : Eff P c db (cmdMSet c db kvs b) := by
  have := putAll_mut kvs hP (.refl : Mut P c db db)
  fun_cases cmdMSet c db kvs b <;> eff_leaf

theorem pop_eff : Eff P c db (cmdPop c db k oi b) := by
  have go n multi : Eff P c db (cmdPop.go c db k b n multi) := by fun_cases cmdPop.go c db k b n multi <;> eff_leaf
  fun_cases cmdPop c db k oi b
  · eff_leaf
  · exact go ..
  · exact go ..

/-- LMOVE between two keys: the destination is created before the source is popped, so the second,
    raw look at it finds it; the push onto it is an `upd` with a list that is not empty. -/
theorem lmove_eff (hall : ∀ k v, P k v) : Eff P c db (cmdLMove c db k k2 b b2) := by
  fun_cases cmdLMove c db k k2 b b2
  case case8 db1 db2 de _ _ dl' d3 e3 hb =>
    have : (d3.poke k2 { e3 with val := .list dl' }).setDirty = upd c db2 k2 de (.list dl') := by
      rw [upd_eq, hb, update_list _ _ _ (by simp only [dl']; split <;> simp)]
    rw [this]
    refine Eff.lit (.upd _ _ _ ?_ fun _ => hall _ _) (inert_of_ok rfl) rfl
    simp only [db2, db1]; mutation
  case case9 dstInfo hdst _ _ _ _ hne db1 _ hnone =>
    exfalso
    rw [raw_upd_ne c _ k k2 _ _ (by simpa using hne)] at hnone
    cases dstInfo with
    | none => simp [db1, raw_put_self] at hnone
    | some p => rw [(live_some_raw (listOf_live hdst).1).1] at hnone; cases hnone
  all_goals eff_leaf

theorem lmpop_eff : Eff P c db (cmdLMPop c db ks b n) := by
  unfold cmdLMPop
  fun_induction cmdLMPop.go c db b n ks
  case case5 =>   -- the reply is the key and the elements taken
    exact Eff.lit (by mutation) (inert_of_ok rfl) (allShape_cons rfl (allShape_cons (shape_bulks _) rfl))
  all_goals first | assumption | eff_leaf

theorem bpop_eff : Eff P c db (runCmd.go c b db ks) := by
  fun_induction runCmd.go c b db ks <;> first | assumption | eff_leaf

omit hP in
theorem del_eff (hdb : db.Forall P) : Eff P c db (cmdDel c db ks b) := by
  unfold cmdDel
  extract_lets step
  refine Eff.lit ?_ (inert_of_ok rfl) rfl
  refine List.foldlRecOn (motive := fun acc => Mut P c db acc.1) ks step (b := (db, 0)) .refl fun (d, n) h x _ => ?_
  have hd : d.Forall P := h.forall hdb
  dsimp only [step]
  split <;> split
  · exact h.del _
  · exact h.unlink _ _ (by simp_all) (hd.live (e := ‹Entry›) ‹_ = some _›)   -- UNLINK, when `reclaim || !c.q.unlinkKeepsObject` is false
  · exact h.del _
  · exact h

theorem sortFinish_eff (store : Option Bytes) (out : List Value) (hint : Match) (ho : Value.allShape out = true) :
    Eff P c db (sortFinish db store out hint) := by
  fun_cases sortFinish db store out hint
  · exact Eff.lit .refl (fun _ => rfl) ho
  · eff_leaf
  · eff_leaf
    exact hP.list _ _ (by simpa [Val.nonEmpty] using ‹¬out.isEmpty = true›)

omit hP in
theorem sortCompute_shape {xs : List Bytes} {isSet : Bool} {by_ : Option Bytes} {limit : Option (Int × Int)}
    {gets : List Bytes} {desc alpha storing : Bool} {out hint}
    (h : sortCompute c db xs isSet by_ limit gets desc alpha storing = some (out, hint)) : Value.allShape out = true := by
  unfold sortCompute at h
  extract_lets at h
  simp only [Option.map_eq_some_iff] at h
  obtain ⟨its, _, h⟩ := h
  simp only [Prod.mk.injEq] at h
  rw [← h.1]
  refine allShape_flatMap _ _ fun it => allShape_map _ _ fun g => ?_
  split
  · rfl
  · split <;> rfl

theorem sort_eff (by_ : Option Bytes) (limit : Option (Int × Int)) (gets : List Bytes) (store : Option Bytes) :
    Eff P c db (cmdSort c db k by_ limit gets b b2 store) := by
  fun_cases cmdSort c db k by_ limit gets b b2 store
  · eff_leaf
  · exact sortFinish_eff (hP := hP) (ho := rfl) ..
  · eff_leaf
  · exact sortFinish_eff (hP := hP) (ho := sortCompute_shape c db (by assumption)) ..

omit hP in
theorem bfStep_reply (buf : Bytes) (p : BfParsed) :
    (bfStep c buf p).2.2.isError = false ∧ (bfStep c buf p).2.2.replyShape = true := by
  unfold bfStep
  extract_lets a u n nv oob m neg resolved
  split
  · exact ⟨rfl, rfl⟩
  · clear_value resolved
    cases resolved <;> exact ⟨rfl, rfl⟩

omit hP in
/-- the results BITFIELD collects are integers or nil -/
theorem bfFold_results {ps : List BfParsed} {acc r : Bytes × Bool × List Value}
    (h : ps.foldl (fun (acc : Bytes × Bool × List Value) p =>
      let (b, ch, rs) := acc
      let (b', ch', r) := bfStep c b p
      (b', ch || ch', rs ++ [r])) acc = r)
    (hacc : ∀ x ∈ acc.2.2, x.isError = false ∧ x.replyShape = true) :
    ∀ x ∈ r.2.2, x.isError = false ∧ x.replyShape = true := by
  subst h
  refine List.foldlRecOn ps _ hacc
    (motive := fun acc : Bytes × Bool × List Value => ∀ x ∈ acc.2.2, x.isError = false ∧ x.replyShape = true)
    fun acc ih p _ x hx => ?_
  rcases List.mem_append.mp hx with hx | hx
  · exact ih x hx
  · cases List.mem_singleton.mp hx; exact bfStep_reply c acc.1 p

theorem bitfieldParsed_eff (ps : List BfParsed) : Eff P c db (cmdBitfieldParsed c db k ps) ∧
    ∀ xs, (cmdBitfieldParsed c db k ps).reply = .array xs → ∀ x ∈ xs, x.isError = false := by
  fun_cases cmdBitfieldParsed c db k ps
  case case3 => exact ⟨by eff_leaf, fun xs h => by cases h⟩
  all_goals
    have hr := bfFold_results c (by assumption) (by simp)
    refine ⟨Eff.lit (by mutation) (inert_of_ok rfl) (allShape_iff.mpr fun x hx => (hr x hx).2), fun xs h x hx => ?_⟩
    cases h; exact (hr x hx).1

omit hP in
theorem bfParse_error_shape (op : BfOp) (e : Value) (h : bfParse op = .error e) : e.replyShape = true := by
  revert h
  fun_cases bfParse op <;> intro h <;> cases h <;> rfl

omit hP in
theorem bfParseAll_error_shape (ops : List BfOp) (e : Value) (h : bfParseAll ops = .error e) : e.replyShape = true := by
  revert h
  fun_cases bfParseAll ops <;> intro h <;> cases h
  rename_i hf   -- the first error found among the operations
  obtain ⟨o, _, ho⟩ := List.exists_of_findSome?_eq_some hf
  split at ho <;> cases ho
  exact bfParse_error_shape o _ (by assumption)

theorem bitfield_eff (ops : List BfOp) : Eff P c db (cmdBitfield c db k ops) := by
  fun_cases cmdBitfield c db k ops
  · exact Eff.lit .refl (fun _ => rfl) (bfParseAll_error_shape ops _ (by assumption))
  · exact (bitfieldParsed_eff (hP := hP) ..).1

theorem setbit_eff : Eff P c db (cmdSetBit c db k i j) := by
  fun_cases cmdSetBit c db k i j
  · eff_leaf
  · eff_leaf
  · rename_i r x hx   -- the one result `x` is taken out of the array BITFIELD answers with
    have ⟨he, hr⟩ : Eff P c db r ∧ _ := bitfieldParsed_eff (hP := hP) ..
    exact ⟨he.step, inert_of_ok (hr _ hx x List.mem_cons_self), he.crash,
      allShape_iff.mp (hx ▸ he.shape :) x List.mem_cons_self⟩
  · exact (bitfieldParsed_eff (hP := hP) ..).1

omit hP in
theorem bitcount_eff (r : Option (Int × Int × Bool)) : Eff P c db (cmdBitCount c db k r) := by
  fun_cases cmdBitCount c db k r
  case case5 hq =>   -- the panic of the unrepaired code: only with the quirk on
    exact ⟨.refl, fun _ => rfl, fun h => (by rw [h] at hq; cases hq), rfl⟩
  all_goals eff_leaf

end

/-- the commands that store nothing but strings, non-empty lists and what they found: all but these ten -/
def Cmd.plain : Cmd → Bool
  | .push .. | .lmove .. | .hset .. | .hdel .. | .hincrby .. | .hincrbyfloat .. | .sadd .. | .srem .. | .smove ..
  | .salgStore .. => false
  | _ => true

/-- Every command function, whatever its arguments and the database: `Eff`, for any `Plain` predicate that holds of
    what is stored — of a command that is not `plain` only if the predicate holds of every value. -/
theorem CmdFn.eff {P : Bytes → Val → Prop} {c : Ctx} {cmd : Cmd} {f : Db → R} (h : CmdFn c cmd f) (hP : Plain P)
    (hs : cmd.plain = true ∨ ∀ k v, P k v) (db : Db) (hdb : db.Forall P) : Eff P c db (f db) := by
  cases h <;> dsimp only
  case set => exact set_eff (hP := hP) ..
  case append => exact append_eff (hP := hP) ..
  case get => fun_cases cmdGet <;> eff_leaf
  case getdel => fun_cases cmdGetDel <;> eff_leaf
  case getex => fun_cases cmdGetEx <;> eff_leaf
  case strlen => fun_cases cmdStrlen <;> eff_leaf
  case getrange => fun_cases cmdGetRange <;> eff_leaf
  case setrange => fun_cases cmdSetRange <;> eff_leaf
  case incrby => exact incrby_eff (hP := hP) ..
  case decrby => exact decrby_eff (hP := hP) ..
  case incrbyfloat => fun_cases cmdIncrByFloat <;> eff_leaf
  case mget => fun_cases cmdMGet <;> eff_leaf
  case mset => exact mset_eff (hP := hP) ..
  case lcsLen => fun_cases cmdLcsLen <;> eff_leaf
  case push => have hall := hs.resolve_left Bool.false_ne_true; fun_cases cmdPush <;> eff_leaf
  case pop => exact pop_eff (hP := hP) ..
  case llen => fun_cases cmdLLen <;> eff_leaf
  case lindex => fun_cases cmdLIndex <;> eff_leaf
  case lrange => fun_cases cmdLRange <;> eff_leaf
  case lset =>
    fun_cases cmdLSet <;> eff_leaf
    -- the index is in range, so the list is not empty
    all_goals
      refine hP.list _ _ (nonEmpty_list (mt (List.set_eq_nil_iff ..).mp ?_))
      rintro rfl
      simp +zetaDelta only [List.length_nil, Int.natCast_zero, Bool.or_eq_true, decide_eq_true_eq] at *
      omega
  case linsert => fun_cases cmdLInsert <;> eff_leaf
  case lrem => fun_cases cmdLRem <;> eff_leaf
  case ltrim => fun_cases cmdLTrim <;> eff_leaf
  case lpos => fun_cases cmdLPos <;> eff_leaf
  case lmove => exact lmove_eff (hP := hP) (hall := hs.resolve_left Bool.false_ne_true) ..
  case lmpop => exact lmpop_eff (hP := hP) ..
  case bpop => exact bpop_eff (hP := hP) ..
  case hset => have hall := hs.resolve_left Bool.false_ne_true; fun_cases cmdHSet <;> eff_leaf
  case hget => fun_cases cmdHGet <;> eff_leaf
  case hmget => fun_cases cmdHMGet <;> eff_leaf
  case hgetall => fun_cases cmdHGetAll <;> eff_leaf
  case hkeys => fun_cases cmdHKeys <;> eff_leaf
  case hlen => fun_cases cmdHLen <;> eff_leaf
  case hexists => fun_cases cmdHExists <;> eff_leaf
  case hstrlen => fun_cases cmdHStrlen <;> eff_leaf
  case hdel => have hall := hs.resolve_left Bool.false_ne_true; fun_cases cmdHDel <;> eff_leaf
  case hincrby => have hall := hs.resolve_left Bool.false_ne_true; fun_cases cmdHIncrBy <;> eff_leaf
  case hincrbyfloat => have hall := hs.resolve_left Bool.false_ne_true; fun_cases cmdHIncrByFloat <;> eff_leaf
  case hrandfield => fun_cases cmdHRandField <;> eff_leaf
  case sadd => have hall := hs.resolve_left Bool.false_ne_true; fun_cases cmdSAdd <;> eff_leaf
  case srem => have hall := hs.resolve_left Bool.false_ne_true; fun_cases cmdSRem <;> eff_leaf
  case scard => fun_cases cmdSCard <;> eff_leaf
  case sismember => fun_cases cmdSIsMember <;> eff_leaf
  case smismember => fun_cases cmdSMIsMember <;> eff_leaf
  case smembers => fun_cases cmdSMembers <;> eff_leaf
  case smove => have hall := hs.resolve_left Bool.false_ne_true; fun_cases cmdSMove <;> eff_leaf
  case salg => fun_cases cmdSetAlgebra <;> eff_leaf
  case salgStore => have hall := hs.resolve_left Bool.false_ne_true; fun_cases cmdSetAlgebraStore <;> eff_leaf
  case sintercard => fun_cases cmdSInterCard <;> eff_leaf
  case srandmember => fun_cases cmdSRandMember <;> eff_leaf
  case del => exact del_eff (hdb := hdb) ..
  case exists_ | touch => fun_cases cmdExists <;> eff_leaf
  case type_ => fun_cases cmdType <;> eff_leaf
  case rename => fun_cases cmdRename <;> eff_leaf
  case copy => fun_cases cmdCopy <;> eff_leaf
  case sort => exact sort_eff (hP := hP) ..
  case keys | randomkey => eff_leaf
  case expire => fun_cases cmdExpireAt <;> eff_leaf
  case persist => fun_cases cmdPersist <;> eff_leaf
  case ttl => fun_cases cmdTtl <;> eff_leaf
  case scan => fun_cases cmdScan <;> eff_leaf
  case getbit => fun_cases cmdGetBit <;> eff_leaf
  case setbit => exact setbit_eff (hP := hP) ..
  case bitcount => exact bitcount_eff ..
  case bitpos => fun_cases cmdBitPos <;> eff_leaf
  case bitop => fun_cases cmdBitOp <;> eff_leaf
  case bitfield => exact bitfield_eff (hP := hP) ..

theorem Plain.any : Plain fun _ _ => True := ⟨fun _ _ => trivial, fun _ _ _ => trivial, fun _ _ _ _ => trivial⟩

/-- … in particular, with nothing asked of the values, every command function on every database -/
theorem CmdFn.effAny {c : Ctx} {cmd : Cmd} {f : Db → R} (h : CmdFn c cmd f) (db : Db) : Eff (fun _ _ => True) c db (f db) :=
  h.eff .any (.inr fun _ _ => trivial) db fun _ _ => trivial

end RedisEmu
