import RedisEmu.Proofs.GoArithBase
/- theorems about the translated Go definitions (List); see Proofs/GoArithBase.lean for the header -/
namespace RedisEmu

/-- the index arithmetic of LRANGE: (first position, last position) before the walk -/
def lrangeBounds (n start stop : Int) : Int × Int :=
  let start := if start < 0 then n + start else start
  let stop := if stop < 0 then n + stop else stop
  let start := if start < 0 then 0 else start
  (start, stop)

theorem lrangeOf_bounds (l : List Bytes) (start stop : Int) :
    lrangeOf l start stop =
      (if (lrangeBounds l.length start stop).2 < (lrangeBounds l.length start stop).1 then []
       else (l.drop (lrangeBounds l.length start stop).1.toNat).take
          ((lrangeBounds l.length start stop).2 - (lrangeBounds l.length start stop).1 + 1).toNat) := by
  unfold lrangeOf lrangeBounds; rfl

/-- the index arithmetic of LTRIM: the positions that are kept (0, -1: nothing) -/
def ltrimBounds (n start stop : Int) : Int × Int :=
  let start := if start < 0 then n + start else start
  let stop := if stop < 0 then n + stop else stop
  let start := if start < 0 then 0 else if start > n then n else start
  if stop < start then (0, -1) else (start, if stop > n then n else stop)

theorem ltrimOf_bounds (l : List Bytes) (start stop : Int) :
    ltrimOf l start stop =
      (l.drop (ltrimBounds l.length start stop).1.toNat).take
        ((ltrimBounds l.length start stop).2 - (ltrimBounds l.length start stop).1 + 1).toNat := by
  simp only [ltrimOf, ltrimBounds]
  generalize (if start < 0 then (l.length : Int) + start else start) = s
  generalize (if stop < 0 then (l.length : Int) + stop else stop) = e
  generalize (if s < 0 then 0 else if s > l.length then (l.length : Int) else s) = s'
  by_cases h : e < s'
  · simp only [h, ↓reduceIte]; rfl
  · simp only [h, ↓reduceIte]

theorem go_lrangeClamp (s e n : BitVec 64) (hn : 0 ≤ n.toInt) :
    ((Go.lrangeClamp s e n).1.toInt, (Go.lrangeClamp s e n).2.toInt) = lrangeBounds n.toInt s.toInt e.toInt := by
  have vS := toInt_fromEnd n s hn; have vE := toInt_fromEnd n e hn
  unfold Go.lrangeClamp lrangeBounds
  generalize (if BitVec.slt s 0#64 then n + s else s) = S at *
  generalize (if BitVec.slt e 0#64 then n + e else e) = E at *
  simp only [← vS, ← vE, BitVec.slt, BitVec.toInt_zero, decide_eq_true_eq, apply_ite BitVec.toInt]

theorem go_ltrimClamp (s e n : BitVec 64) (hn : 0 ≤ n.toInt) :
    ((Go.ltrimClamp s e n).1.toInt, (Go.ltrimClamp s e n).2.toInt) = ltrimBounds n.toInt s.toInt e.toInt := by
  have vS := toInt_fromEnd n s hn; have vE := toInt_fromEnd n e hn
  unfold Go.ltrimClamp ltrimBounds
  generalize (if BitVec.slt s 0#64 then n + s else s) = S at *
  generalize (if BitVec.slt e 0#64 then n + e else e) = E at *
  simp only [← vS, ← vE, BitVec.slt, BitVec.toInt_zero, decide_eq_true_eq, apply_ite BitVec.toInt, apply_ite Prod.fst,
    apply_ite Prod.snd, show (-1#64).toInt = -1 by decide, gt_iff_lt, Prod.ext_iff, and_self]

end RedisEmu
