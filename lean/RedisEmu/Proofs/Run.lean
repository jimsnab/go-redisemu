import RedisEmu.Proofs.State
/- How `runCmd` treats a command: the functions it runs on the bound database, named once. -/
namespace RedisEmu

/-! `runCmd` (Exec.lean) spells out four handlers in place. Each is restated here word for word under a name, so
    that `CmdFn` and the case lists over it can speak of it; that it is the function `runCmd` runs is part of
    `runCmd_kind`, by `rfl`. (BLPOP / BRPOP's handler is a `let rec` and has a name already, `runCmd.go`.) -/

/-- the case `.lcsLen a b` of `runCmd`: LCS … LEN -/
def cmdLcsLen (c : Ctx) (db : Db) (a b : Bytes) : R :=
  match db.live c.now a, db.live c.now b with
  | some { val := .str x, .. }, some { val := .str y, .. } =>
    R.ok db (vInt (if c.q.lcsRunes then lcsLen (toRunes x) (toRunes y) else lcsLen x y))
  | some { val := .str _, .. }, none | none, some { val := .str _, .. } | none, none => R.ok db (.bulk [])
  | _, _ => R.ok db wrongType

/-- the case `.hrandfield k cnt wv` of `runCmd`: HRANDFIELD; the choice itself is judged by the driver (`validateRandom`) -/
def cmdHRandField (c : Ctx) (db : Db) (k : Bytes) (cnt : Option Int) (wv : Bool) : R :=
  if (cnt.map fun x => decide (x < -1048576) || decide (x > 1048576)).getD false then
    R.ok db (.error (sb "ERR value is out of range")) else
  match hashOf c db k with
  | .error _ => R.ok db wrongType
  | .ok none => R.ok db (if cnt.isNone then .nil else if wv then .map [] else .array [])
  | .ok (some _) => { db := db, reply := .nil, hint := .custom "hrandfield" }

/-- the case `.srandmember k cnt` of `runCmd`: SRANDMEMBER, likewise -/
def cmdSRandMember (c : Ctx) (db : Db) (k : Bytes) (cnt : Option Int) : R :=
  if (cnt.map fun x => decide (x < -1048576) || decide (x > 1048576)).getD false then
    R.ok db (.error (sb "ERR value is out of range")) else
  match setOf c db k with
  | .error _ => R.ok db wrongType
  | .ok none => R.ok db (if cnt.isNone then .nil else .array [])
  | .ok (some _) => { db := db, reply := .nil, hint := .custom "srandmember" }

/-- the case `.scan kind k _ _ cnt _` of `runCmd`: SCAN / HSCAN / SSCAN; pages are judged by the driver -/
def cmdScan (c : Ctx) (db : Db) (kind : Nat) (k : Bytes) (cnt : Option Int) : R :=
  if (cnt.map fun x => decide (x < 1)).getD false then R.ok db errSyntax else
  match kind with
  | 0 => { db := db, reply := .nil, hint := .custom "scan" }
  | 1 => (match hashOf c db k with
          | .error _ => R.ok db wrongType
          | .ok none => R.ok db (.array [.bulk (sb "0"), .array []])
          | .ok (some _) => { db := db, reply := .nil, hint := .custom "hscan" })
  | _ => (match setOf c db k with
          | .error _ => R.ok db wrongType
          | .ok none => R.ok db (.array [.bulk (sb "0"), .array []])
          | .ok (some _) => { db := db, reply := .nil, hint := .custom "sscan" })

/-- `CmdFn c cmd f`: the command function `runCmd` hands to `onDb` for the data command `cmd`. -/
inductive CmdFn (c : Ctx) : Cmd → (Db → R) → Prop
  | set k v o nx : CmdFn c (.set k v o nx) (cmdSet c · k v o nx)
  | append k v : CmdFn c (.append k v) (cmdAppend c · k v)
  | get k : CmdFn c (.get k) (cmdGet c · k)
  | getdel k : CmdFn c (.getdel k) (cmdGetDel c · k)
  | getex k e : CmdFn c (.getex k e) (cmdGetEx c · k e)
  | strlen k : CmdFn c (.strlen k) (cmdStrlen c · k)
  | getrange k a b : CmdFn c (.getrange k a b) (cmdGetRange c · k a b)
  | setrange k o v : CmdFn c (.setrange k o v) (cmdSetRange c · k o v)
  | incrby k d : CmdFn c (.incrby k d) (cmdIncrBy c · k d)
  | decrby k d : CmdFn c (.decrby k d) (cmdDecrBy c · k d)
  | incrbyfloat k d : CmdFn c (.incrbyfloat k d) (cmdIncrByFloat c · k d)
  | mget ks : CmdFn c (.mget ks) (cmdMGet c · ks)
  | mset kvs nx : CmdFn c (.mset kvs nx) (cmdMSet c · kvs nx)
  | lcsLen a b : CmdFn c (.lcsLen a b) (cmdLcsLen c · a b)
  | push k vs l x : CmdFn c (.push k vs l x) (cmdPush c · k vs l x)
  | pop k n l : CmdFn c (.pop k n l) (cmdPop c · k n l)
  | llen k : CmdFn c (.llen k) (cmdLLen c · k)
  | lindex k i : CmdFn c (.lindex k i) (cmdLIndex c · k i)
  | lrange k a b : CmdFn c (.lrange k a b) (cmdLRange c · k a b)
  | lset k i v : CmdFn c (.lset k i v) (cmdLSet c · k i v)
  | linsert k b p v : CmdFn c (.linsert k b p v) (cmdLInsert c · k b p v)
  | lrem k n v : CmdFn c (.lrem k n v) (cmdLRem c · k n v)
  | ltrim k a b : CmdFn c (.ltrim k a b) (cmdLTrim c · k a b)
  | lpos k v r n m : CmdFn c (.lpos k v r n m) (cmdLPos c · k v r n m)
  | lmove a b x y : CmdFn c (.lmove a b x y) (cmdLMove c · a b x y)
  | lmpop nk ks l cnt : CmdFn c (.lmpop nk ks l cnt) (cmdLMPop c · ks l (cnt.getD 1).toNat)
  | bpop ks l : CmdFn c (.bpop ks l) (runCmd.go c l · ks)
  | hset k fvs nx ok : CmdFn c (.hset k fvs nx ok) (cmdHSet c · k fvs nx ok)
  | hget k f : CmdFn c (.hget k f) (cmdHGet c · k f)
  | hmget k fs : CmdFn c (.hmget k fs) (cmdHMGet c · k fs)
  | hgetall k : CmdFn c (.hgetall k) (cmdHGetAll c · k)
  | hkeys k v : CmdFn c (.hkeys k v) (cmdHKeys c · k v)
  | hlen k : CmdFn c (.hlen k) (cmdHLen c · k)
  | hexists k f : CmdFn c (.hexists k f) (cmdHExists c · k f)
  | hstrlen k f : CmdFn c (.hstrlen k f) (cmdHStrlen c · k f)
  | hdel k fs : CmdFn c (.hdel k fs) (cmdHDel c · k fs)
  | hincrby k f d : CmdFn c (.hincrby k f d) (cmdHIncrBy c · k f d)
  | hincrbyfloat k f d : CmdFn c (.hincrbyfloat k f d) (cmdHIncrByFloat c · k f d)
  | hrandfield k cnt wv : CmdFn c (.hrandfield k cnt wv) (cmdHRandField c · k cnt wv)
  | sadd k ms : CmdFn c (.sadd k ms) (cmdSAdd c · k ms)
  | srem k ms : CmdFn c (.srem k ms) (cmdSRem c · k ms)
  | scard k : CmdFn c (.scard k) (cmdSCard c · k)
  | sismember k m : CmdFn c (.sismember k m) (cmdSIsMember c · k m)
  | smismember k ms : CmdFn c (.smismember k ms) (cmdSMIsMember c · k ms)
  | smembers k : CmdFn c (.smembers k) (cmdSMembers c · k)
  | smove a b m : CmdFn c (.smove a b m) (cmdSMove c · a b m)
  | salg op ks : CmdFn c (.salg op ks) (cmdSetAlgebra c · op ks)
  | salgStore op d ks : CmdFn c (.salgStore op d ks) (cmdSetAlgebraStore c · op d ks)
  | sintercard n ks lim : CmdFn c (.sintercard n ks lim) (cmdSInterCard c · n ks lim)
  | srandmember k cnt : CmdFn c (.srandmember k cnt) (cmdSRandMember c · k cnt)
  | del ks r : CmdFn c (.del ks r) (cmdDel c · ks r)
  | exists_ ks : CmdFn c (.exists_ ks) (cmdExists c · ks)
  | touch ks : CmdFn c (.touch ks) (cmdExists c · ks)
  | type_ k : CmdFn c (.type_ k) (cmdType c · k)
  | rename a b nx : CmdFn c (.rename a b nx) (cmdRename c · a b nx)
  | copy a b rep dbOpt : CmdFn c (.copy a b rep dbOpt) (cmdCopy c · a b rep)
  | sort k b l g d al st : CmdFn c (.sort k b l g d al st) (cmdSort c · k b l g d al st)
  | keys pat : CmdFn c (.keys pat) fun db => { db := db, reply := .nil, hint := .custom "keys" }
  | randomkey : CmdFn c .randomkey fun db => { db := db, reply := .nil, hint := .custom "randomkey" }
  | expire k n unit abs opt :
      CmdFn c (.expire k n unit abs opt) (cmdExpireAt c · k (if abs then n * unit else c.now + n * unit) opt)
  | persist k : CmdFn c (.persist k) (cmdPersist c · k)
  | ttl k kind : CmdFn c (.ttl k kind) (cmdTtl c · k kind)
  | scan kind k cur pat cnt ty : CmdFn c (.scan kind k cur pat cnt ty) (cmdScan c · kind k cnt)
  | getbit k o : CmdFn c (.getbit k o) (cmdGetBit c · k o)
  | setbit k o v : CmdFn c (.setbit k o v) (cmdSetBit c · k o v)
  | bitcount k r : CmdFn c (.bitcount k r) (cmdBitCount c · k r)
  | bitpos k b st en : CmdFn c (.bitpos k b st en) (cmdBitPos c · k b st en)
  | bitop op d ks : CmdFn c (.bitop op d ks) (cmdBitOp c · op d ks)
  | bitfield k ops ro : CmdFn c (.bitfield k ops ro) (cmdBitfield c · k ops)

theorem runCmd_kind (c : Ctx) (conn ref : Nat) (m : Bool) (cmd : Cmd) :
    (∃ f, CmdFn c cmd f ∧ ∀ s, runCmd c s conn ref m cmd = onDb s ref f) ∨
    (∃ v, v.isError = true ∧ ∀ s, runCmd c s conn ref m cmd = { st := s, reply := v }) ∨
    cmd.isSession = true := by
  cases cmd
  case lmpop nk ks l cnt =>
    by_cases h1 : (nk != ks.length) = true
    · exact .inr (.inl ⟨errSyntax, rfl, fun s => by simp only [runCmd, h1, if_true]⟩)
    · by_cases h2 : (cnt.map fun x => decide (x < 1)).getD false = true
      · exact .inr (.inl ⟨errSyntax, rfl, fun s => by simp [runCmd, h1, h2]⟩)
      · exact .inl ⟨_, .lmpop .., fun s => by simp [runCmd, h1, h2]⟩
  case copy a b rep dbOpt =>
    cases dbOpt
    · exact .inl ⟨_, .copy .., fun s => by simp only [runCmd, Bool.false_eq_true, if_false]⟩
    · exact .inr (.inl ⟨errDbCopy, rfl, fun s => by simp only [runCmd, if_true]⟩)
  all_goals first
    | exact .inr (.inr rfl)                                                     -- a session command
    -- `CmdFn`'s constructor for this command; `dsimp` steps into `runCmd` and closes the goal, but for the four
    -- handlers that `runCmd` spells out in place, where `rfl` compares them with their named copies
    | exact .inl ⟨_, by constructor, fun s => by dsimp only [runCmd] <;> rfl⟩

theorem runCmd_cases {P : Out → Prop} (c : Ctx) (s : State) (conn ref : Nat) (m : Bool) (cmd : Cmd)
    (data : ∀ f, CmdFn c cmd f → P (onDb s ref f))
    (refused : ∀ v, v.isError = true → P { st := s, reply := v })
    (session : cmd.isSession = true → P (runCmd c s conn ref m cmd)) :
    P (runCmd c s conn ref m cmd) := by
  rcases runCmd_kind c conn ref m cmd with ⟨f, hf, h⟩ | ⟨v, hv, h⟩ | h
  · rw [h]; exact data f hf
  · rw [h]; exact refused v hv
  · exact session h

theorem runCmd_cases₂ {P : Out → Out → Prop} (c : Ctx) (s s' : State) (conn ref : Nat) (m : Bool) (cmd : Cmd)
    (data : ∀ f, CmdFn c cmd f → P (onDb s ref f) (onDb s' ref f))
    (refused : ∀ v, v.isError = true → P { st := s, reply := v } { st := s', reply := v })
    (session : cmd.isSession = true → P (runCmd c s conn ref m cmd) (runCmd c s' conn ref m cmd)) :
    P (runCmd c s conn ref m cmd) (runCmd c s' conn ref m cmd) := by
  rcases runCmd_kind c conn ref m cmd with ⟨f, hf, h⟩ | ⟨v, hv, h⟩ | h
  · rw [h, h]; exact data f hf
  · rw [h, h]; exact refused v hv
  · exact session h

/-- **Database by database.** A relation between a database before and after a command (and the reply)
    holds for every command and every database of the server as soon as it holds of a database left
    alone, of a flushed one (reply `OK`), and of what each command function does to the database it runs on. -/
theorem runCmd_dbwise {Rel : Value → Db → Db → Prop} (c : Ctx) (s : State) (conn ref : Nat) (m : Bool) (cmd : Cmd)
    (same : ∀ v r, Rel v (s.getDb r) (s.getDb r))
    (flush : ∀ r, Rel vOK (s.getDb r) (flushed (s.getDb r)))
    (data : ∀ f, CmdFn c cmd f → Rel (f (s.getDb ref)).reply (s.getDb ref) (f (s.getDb ref)).db) (r : Nat) :
    Rel (runCmd c s conn ref m cmd).reply (s.getDb r) ((runCmd c s conn ref m cmd).st.getDb r) := by
  refine runCmd_cases (P := fun o => Rel o.reply (s.getDb r) (o.st.getDb r)) c s conn ref m cmd
    (fun f hf => ?_) (fun v _ => same v r) (fun hs => ?_)
  · rw [getDb_onDb]
    cases h : ref == r
    · exact same _ r
    · cases eq_of_beq h; exact data f hf
  · rcases (runCmd_session c s conn ref m cmd hs).2.2 r with h | ⟨hv, h⟩ <;> rw [h]
    · exact same _ r
    · rw [hv]; exact flush r

end RedisEmu
