import RedisEmu.Base
/-
  The association-list primitives (core Lean only). `alookup` sees the first pair under a key; `aerase`
  drops that pair, so the keys of the result are `List.erase` of the keys; `ainsert` is, up to order,
  the new pair in front of `aerase` — membership and uniqueness of keys after an insertion come from that.
-/
namespace RedisEmu

variable {α : Type}

theorem beq_bytes_refl (k : Bytes) : (k == k) = true := by simp

theorem alookup_eq_none (k : Bytes) (l : List (Bytes × α)) : alookup k l = none ↔ k ∉ l.map (·.1) := by
  fun_induction alookup k l with
  | case1 => simp
  | case2 k' v r h => simp [eq_of_beq h]
  | case3 k' v r h ih =>
    rw [ih, List.map_cons, List.mem_cons, not_or]
    exact (and_iff_right fun (e : k = k') => h (e ▸ beq_self_eq_true k)).symm

theorem mem_of_alookup (k : Bytes) (l : List (Bytes × α)) (v : α) (h : alookup k l = some v) :
    (k, v) ∈ l := by
  fun_induction alookup k l with
  | case1 => cases h
  | case2 k' v' r hk => cases h; cases eq_of_beq hk; exact List.mem_cons_self
  | case3 k' v' r hk ih => exact List.mem_cons_of_mem _ (ih h)

theorem alookup_of_mem_nodup (l : List (Bytes × α)) (p : Bytes × α) (hp : p ∈ l) (hu : (l.map (·.1)).Nodup) :
    alookup p.1 l = some p.2 := by
  fun_induction alookup p.1 l with
  | case1 => cases hp
  | case2 k' v r hk =>
    rcases List.mem_cons.mp hp with rfl | hm
    · rfl
    · exact absurd (List.mem_map.mpr ⟨p, hm, (eq_of_beq hk).symm⟩) (List.nodup_cons.mp hu).1
  | case3 k' v r hk ih =>
    rcases List.mem_cons.mp hp with rfl | hm
    · simp at hk
    · exact ih hm (List.nodup_cons.mp hu).2

theorem alookup_eq_some_iff {l : List (Bytes × α)} (hu : (l.map (·.1)).Nodup) {k : Bytes} {v : α} :
    alookup k l = some v ↔ (k, v) ∈ l :=
  ⟨mem_of_alookup k l v, fun h => alookup_of_mem_nodup l (k, v) h hu⟩

theorem aerase_sublist (k : Bytes) (l : List (Bytes × α)) : (aerase k l).Sublist l := by
  fun_induction aerase k l with
  | case1 => exact .slnil
  | case2 => exact .cons _ (.refl _)
  | case3 _ _ _ _ ih => exact .cons_cons _ ih

theorem keys_aerase (k : Bytes) (l : List (Bytes × α)) : (aerase k l).map (·.1) = (l.map (·.1)).erase k := by
  fun_induction aerase k l with
  | case1 => rfl
  | case2 k' v r h => simp [List.erase_cons, h]
  | case3 k' v r h ih => simp [h, ih]

theorem aerase_of_alookup_none {k : Bytes} {l : List (Bytes × α)} (h : alookup k l = none) : aerase k l = l := by
  fun_induction aerase k l with
  | case1 => rfl
  | case2 k' v r hk => simp [alookup, hk] at h
  | case3 k' v r hk ih => rw [ih (by simpa [alookup, hk] using h)]

theorem mem_aerase (k : Bytes) (l : List (Bytes × α)) (p : Bytes × α)
    (hp : p ∈ aerase k l) : p ∈ l := (aerase_sublist k l).subset hp

theorem aerase_keys_nodup (k : Bytes) (l : List (Bytes × α)) (hu : (l.map (·.1)).Nodup) :
    ((aerase k l).map (·.1)).Nodup := keys_aerase k l ▸ hu.erase k

theorem key_ne_of_mem_aerase {k : Bytes} {l : List (Bytes × α)} (hu : (l.map (·.1)).Nodup) {p : Bytes × α}
    (hp : p ∈ aerase k l) : p.1 ≠ k :=
  (hu.mem_erase_iff.mp (keys_aerase k l ▸ List.mem_map_of_mem hp)).1

@[simp] theorem alookup_aerase_self_of_unique (k : Bytes) (l : List (Bytes × α))
    (hu : (l.map (·.1)).Nodup) : alookup k (aerase k l) = none :=
  (alookup_eq_none ..).mpr fun h =>
    have ⟨_, hp, e⟩ := List.mem_map.mp h
    key_ne_of_mem_aerase hu hp e

theorem alookup_aerase_ne (k k' : Bytes) (l : List (Bytes × α)) (h : (k == k') = false) :
    alookup k' (aerase k l) = alookup k' l := by
  fun_induction aerase k l with
  | case1 => rfl
  | case2 k₁ v₁ r h1 => cases eq_of_beq h1; simp [alookup, h]
  | case3 k₁ v₁ r h1 ih => simp only [alookup, ih]

theorem alookup_ainsert (k k' : Bytes) (v : α) (l : List (Bytes × α)) :
    alookup k' (ainsert k v l) = if k == k' then some v else alookup k' l := by
  fun_induction ainsert k v l with
  | case1 => rfl
  | case2 k₁ v₁ r h => cases eq_of_beq h; simp only [alookup]; split <;> rfl
  | case3 k₁ v₁ r h ih =>
    simp only [alookup, ih]
    by_cases h1 : (k == k') = true
    · cases eq_of_beq h1; rw [if_neg h, if_pos h1, if_pos h1]
    · rw [if_neg h1, if_neg h1]

@[simp] theorem alookup_ainsert_self (k : Bytes) (v : α) (l : List (Bytes × α)) :
    alookup k (ainsert k v l) = some v := by simp [alookup_ainsert]

theorem alookup_ainsert_ne (k k' : Bytes) (v : α) (l : List (Bytes × α)) (h : (k == k') = false) :
    alookup k' (ainsert k v l) = alookup k' l := by simp [alookup_ainsert, h]

theorem ainsert_perm (k : Bytes) (v : α) (l : List (Bytes × α)) : (ainsert k v l).Perm ((k, v) :: aerase k l) := by
  fun_induction ainsert k v l with
  | case1 => exact .refl _
  | case2 k' v' r h => simp [aerase, h]
  | case3 k' v' r h ih => simp only [aerase, h]; exact (ih.cons _).trans (.swap ..)

theorem mem_ainsert_iff {k : Bytes} {v : α} {l : List (Bytes × α)} {p : Bytes × α} :
    p ∈ ainsert k v l ↔ p = (k, v) ∨ p ∈ aerase k l := (ainsert_perm k v l).mem_iff.trans List.mem_cons

theorem mem_ainsert_strong (k : Bytes) (v : α) (l : List (Bytes × α)) (p : Bytes × α)
    (hu : (l.map (·.1)).Nodup) (hp : p ∈ ainsert k v l) : p = (k, v) ∨ (p ∈ l ∧ (p.1 == k) = false) :=
  (mem_ainsert_iff.mp hp).imp_right fun h => ⟨mem_aerase k l p h, beq_false_of_ne (key_ne_of_mem_aerase hu h)⟩

theorem mem_ainsert (k : Bytes) (v : α) (l : List (Bytes × α)) (p : Bytes × α)
    (hp : p ∈ ainsert k v l) : p = (k, v) ∨ p ∈ l := (mem_ainsert_iff.mp hp).imp_right (mem_aerase k l p)

theorem ainsert_keys_nodup (k : Bytes) (v : α) (l : List (Bytes × α)) (hu : (l.map (·.1)).Nodup) :
    ((ainsert k v l).map (·.1)).Nodup := by
  rw [((ainsert_perm k v l).map _).nodup_iff, List.map_cons, List.nodup_cons, keys_aerase]
  exact ⟨hu.not_mem_erase, hu.erase k⟩

theorem ainsert_ne_nil (k : Bytes) (v : α) (l : List (Bytes × α)) : ainsert k v l ≠ [] := by
  fun_cases ainsert k v l <;> simp

end RedisEmu
