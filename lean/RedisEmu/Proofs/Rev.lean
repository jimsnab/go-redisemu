import RedisEmu.Dict
/- bit reversal (`rev`, behind the table layout and the SCAN cursor), from one fact: bit `i` of `rev k x`
   is bit `k - 1 - i` of `x` (core Lean only) -/
namespace RedisEmu

theorem rev_lt (k x : Nat) : rev k x < 2 ^ k := by
  induction k generalizing x with
  | zero => exact Nat.one_pos
  | succ k ih =>
    have := ih (x / 2)
    rw [rev, Nat.pow_succ]
    rcases Nat.mod_two_eq_zero_or_one x with h | h <;> rw [h] <;> omega

theorem testBit_rev (k x i : Nat) : (rev k x).testBit i = (decide (i < k) && x.testBit (k - 1 - i)) := by
  induction k generalizing x i with
  | zero => simp [rev]
  | succ k ih =>
    rw [rev, Nat.mul_comm, Nat.testBit_two_pow_mul_add _ (rev_lt k _), ih, Nat.testBit_div_two,
      ← Nat.pow_one 2, Nat.testBit_mod_two_pow]
    split
    · simp [*, show i < k + 1 by omega, show k - 1 - i + 1 = k + 1 - 1 - i by omega]
    · by_cases h : i = k
      · simp [h]
      · simp [show ¬ i < k + 1 by omega, show ¬ i - k < 1 by omega]

theorem rev_zero (k : Nat) : rev k 0 = 0 :=
  Nat.eq_of_testBit_eq fun i => by simp [testBit_rev]

theorem rev_mod (k x : Nat) : rev k (x % 2 ^ k) = rev k x := by
  apply Nat.eq_of_testBit_eq; intro i
  by_cases h : i < k
  · simp [testBit_rev, h, show k - 1 - i < k by omega]
  · simp [testBit_rev, h]

theorem rev_rev (k x : Nat) : rev k (rev k x) = x % 2 ^ k := by
  apply Nat.eq_of_testBit_eq; intro i
  by_cases h : i < k
  · simp [testBit_rev, h, show k - 1 - i < k by omega, show k - 1 - (k - 1 - i) = i by omega]
  · simp [testBit_rev, h]

theorem rev_rev_of_lt (k p : Nat) (h : p < 2 ^ k) : rev k (rev k p) = p := by
  rw [rev_rev, Nat.mod_eq_of_lt h]

/-- halving the table `d` times: the bucket index is divided by `2^d` -/
theorem rev_shrink (k d x : Nat) : rev k x = rev (k + d) x / 2 ^ d := by
  apply Nat.eq_of_testBit_eq; intro i
  simp [testBit_rev, Nat.testBit_div_two_pow, show k + d - 1 - (i + d) = k - 1 - i by omega]

/-- the recursion from the top bit (the definition peels off the bottom bit) -/
theorem rev_succ (k x : Nat) : rev (k + 1) x = 2 * rev k x + (x / 2 ^ k) % 2 := by
  have h0 : rev (k + 1) x % 2 = 1 ↔ x / 2 ^ k % 2 = 1 := by
    simpa [Nat.testBit_eq_decide_div_mod_eq] using testBit_rev (k + 1) x 0
  have := rev_shrink k 1 x
  omega

theorem rev_mul_two_pow (k d c : Nat) : rev (k + d) (c * 2 ^ d) = rev k c := by
  induction d with
  | zero => simp
  | succ d ih =>
    rw [← Nat.add_assoc, rev, Nat.pow_succ, ← Nat.mul_assoc, Nat.mul_mod_left, Nat.mul_div_cancel _ Nat.two_pos, ih]
    simp

/-- doubling the table `d` times: a cursor produced in the small table denotes the first bucket
    of the range its old bucket was split into -/
theorem rev_grow (k d c : Nat) (hc : c < 2 ^ k) : rev (k + d) c = rev k c * 2 ^ d := by
  -- reverse `rev_mul_two_pow` at `rev k c` once more
  have h := rev_rev (k + d) (rev k c * 2 ^ d)
  rwa [rev_mul_two_pow, rev_rev, Nat.mod_eq_of_lt hc, Nat.mod_eq_of_lt] at h
  rw [Nat.pow_add]
  exact Nat.mul_lt_mul_of_pos_right (rev_lt k c) (Nat.two_pow_pos d)

theorem bucketOf_eq (k h : Nat) : bucketOf k h = rev k h := rev_mod k h

theorem bucketOf_lt (k h : Nat) : bucketOf k h < 2 ^ k := rev_lt k _

theorem bucketOf_shrink (k d h : Nat) : bucketOf k h = bucketOf (k + d) h / 2 ^ d := by
  rw [bucketOf_eq, bucketOf_eq]; exact rev_shrink k d h

theorem bucketOf_eq_of_le {k k' a b : Nat} (hk : k ≤ k') (h : bucketOf k' a = bucketOf k' b) :
    bucketOf k a = bucketOf k b := by
  obtain ⟨d, rfl⟩ := Nat.exists_eq_add_of_le hk
  rw [bucketOf_shrink k d, h, ← bucketOf_shrink]

theorem bucketOf_inj (k a b : Nat) (h : bucketOf k a = bucketOf k b) : a % 2 ^ k = b % 2 ^ k := by
  have := congrArg (rev k) h
  rwa [bucketOf_eq, bucketOf_eq, rev_rev, rev_rev] at this

end RedisEmu
