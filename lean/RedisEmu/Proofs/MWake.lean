import RedisEmu.MWake
/-
  The invariant `MFull` of the multi-key wake-up accounting model (`RedisEmu.MWake`) and what the steps do to it:
  first what `mwake` / `mwakeEach` do to the wake-ups of a key (`tokens`) and to its waiters, and what removing or
  changing the client at a position does; from these one lemma per kind of step (`mfull_shrink` … `mfull_relink`),
  which `mfull_step` (C11) puts together.
-/
namespace RedisEmu

/-- a well-formed client: a wake-up unlinks, and is raised by one of the client's own keys -/
def MC.ok (c : MC) : Prop := (c.token.isSome = true → c.queued = false) ∧ (∀ k, c.token = some k → c.keys.contains k = true)

def AllOk (cs : List MC) : Prop := ∀ c ∈ cs, c.ok

theorem decLen_le (len : Nat → Nat) (j k : Nat) : decLen len j k ≤ len k := by
  unfold decLen; split <;> omega

theorem firstNonEmpty_none (len : Nat → Nat) (ks : List Nat) (h : firstNonEmpty len ks = none) :
    ∀ k ∈ ks, len k = 0 := by
  induction ks with
  | nil => exact fun _ hk => nomatch hk
  | cons a r ih =>
    unfold firstNonEmpty at h
    split at h
    · cases h
    · exact List.forall_mem_cons.mpr ⟨by omega, ih h⟩

theorem tokens_cons (k : Nat) (c : MC) (r : List MC) :
    tokens k (c :: r) = (if c.token == some k then 1 else 0) + tokens k r := by
  unfold tokens; rw [List.countP_cons, Nat.add_comm]

theorem tokens_append_one (k : Nat) (cs : List MC) (c : MC) (h : c.token = none) : tokens k (cs ++ [c]) = tokens k cs := by
  unfold tokens; rw [List.countP_append]; simp [h]

theorem MC.waitsOn_iff (c : MC) (k : Nat) : c.waitsOn k = true ↔ c.queued = true ∧ c.keys.contains k = true :=
  Bool.and_eq_true_iff

theorem waits_no_token (c : MC) (k : Nat) (h : c.ok) (hw : c.waitsOn k = true) : c.token = none := by
  cases ht : c.token with
  | none => rfl
  | some j => have := h.1 (by simp [ht]); simp [MC.waitsOn, this] at hw

theorem noPassive_of_noWaiter {k : Nat} {cs : List MC} (h : ∀ c ∈ cs, c.waitsOn k = true → False) :
    NoPassive k cs :=
  fun c hc hw => (h c hc hw).elim

theorem mem_wake (k n : Nat) (cs : List MC) (d : MC) (h : d ∈ mwake k n cs) :
    d ∈ cs ∨ ∃ c ∈ cs, c.waitsOn k = true ∧ d = { c with queued := false, token := some k } := by
  fun_induction mwake k n cs with
  | case1 => exact .inl h
  | case2 => exact .inl h
  | case3 n c r hw ih =>
    rcases List.mem_cons.mp h with rfl | e
    · exact .inr ⟨c, List.mem_cons_self, hw, rfl⟩
    · exact (ih e).imp (List.mem_cons_of_mem _) fun ⟨c', hc', h'⟩ => ⟨c', List.mem_cons_of_mem _ hc', h'⟩
  | case4 n c r hw ih =>
    rcases List.mem_cons.mp h with rfl | e
    · exact .inl List.mem_cons_self
    · exact (ih e).imp (List.mem_cons_of_mem _) fun ⟨c', hc', h'⟩ => ⟨c', List.mem_cons_of_mem _ hc', h'⟩

/-- what holds of everybody who waits for a key still does (`NoPassive`; nobody waits at all) -/
theorem waiters_wake {Q : MC → Prop} (j k n : Nat) (cs : List MC) (h : ∀ c ∈ cs, c.waitsOn j = true → Q c) :
    ∀ c ∈ mwake k n cs, c.waitsOn j = true → Q c := by
  intro d hd hw
  rcases mem_wake k n cs d hd with h1 | ⟨c, _, _, rfl⟩
  · exact h d h1 hw
  · simp [MC.waitsOn] at hw

theorem allOk_wake (k n : Nat) (cs : List MC) (h : AllOk cs) : AllOk (mwake k n cs) := by
  intro d hd
  rcases mem_wake k n cs d hd with h1 | ⟨c, _, hw, rfl⟩
  · exact h d h1
  · exact ⟨fun _ => rfl, fun k' hk' => by cases hk'; exact ((c.waitsOn_iff k).mp hw).2⟩

theorem tokens_wake_other (k j : Nat) (hjk : j ≠ k) (n : Nat) (cs : List MC) (h : AllOk cs) :
    tokens j (mwake k n cs) = tokens j cs := by
  fun_induction mwake k n cs with
  | case1 => rfl
  | case2 => rfl
  | case3 n c r hw ih =>
    have ⟨hc, hr⟩ := List.forall_mem_cons.mp h
    rw [tokens_cons, tokens_cons, ih hr, waits_no_token c k hc hw]
    simp [Ne.symm hjk]
  | case4 n c r hw ih => rw [tokens_cons, tokens_cons, ih (List.forall_mem_cons.mp h).2]

theorem tokens_wake_ge (j k n : Nat) (cs : List MC) (h : AllOk cs) : tokens j cs ≤ tokens j (mwake k n cs) := by
  fun_induction mwake k n cs with
  | case1 => exact Nat.le_refl _
  | case2 => exact Nat.le_refl _
  | case3 n c r hw ih =>
    have ⟨hc, hr⟩ := List.forall_mem_cons.mp h
    have := ih hr
    rw [tokens_cons, tokens_cons, waits_no_token c k hc hw]
    simp only [reduceCtorEq, beq_iff_eq, ↓reduceIte]; omega
  | case4 n c r hw ih =>
    have := ih (List.forall_mem_cons.mp h).2
    rw [tokens_cons, tokens_cons]; omega

theorem wake_serves (k n : Nat) (cs : List MC) (h : AllOk cs) :
    tokens k cs + n ≤ tokens k (mwake k n cs) ∨ ∀ c ∈ mwake k n cs, c.waitsOn k = true → False := by
  fun_induction mwake k n cs with
  | case1 => exact .inl (Nat.le_refl _)
  | case2 => exact .inr fun _ h => nomatch h
  | case3 n c r hw ih =>
    have ⟨hc, hr⟩ := List.forall_mem_cons.mp h
    refine (ih hr).imp (fun a => ?_) fun a => List.forall_mem_cons.mpr ⟨by simp [MC.waitsOn], a⟩
    rw [tokens_cons, tokens_cons, waits_no_token c k hc hw]
    simp only [reduceCtorEq, beq_iff_eq, beq_self_eq_true, ↓reduceIte]; omega
  | case4 n c r hw ih =>
    refine (ih (List.forall_mem_cons.mp h).2).imp (fun a => ?_) fun a => List.forall_mem_cons.mpr ⟨hw, a⟩
    rw [tokens_cons, tokens_cons]; omega

theorem allOk_wakeEach (ks : List Nat) (cs : List MC) (h : AllOk cs) : AllOk (mwakeEach ks cs) := by
  induction ks generalizing cs with
  | nil => exact h
  | cons k r ih => exact ih _ (allOk_wake k 1 cs h)

theorem waiters_wakeEach {Q : MC → Prop} (j : Nat) (ks : List Nat) (cs : List MC)
    (h : ∀ c ∈ cs, c.waitsOn j = true → Q c) : ∀ c ∈ mwakeEach ks cs, c.waitsOn j = true → Q c := by
  induction ks generalizing cs with
  | nil => exact h
  | cons k r ih => exact ih _ (waiters_wake j k 1 cs h)

theorem tokens_wakeEach_ge (k : Nat) (ks : List Nat) (cs : List MC) (h : AllOk cs) :
    tokens k cs ≤ tokens k (mwakeEach ks cs) := by
  induction ks generalizing cs with
  | nil => exact Nat.le_refl _
  | cons j r ih => exact Nat.le_trans (tokens_wake_ge k j 1 cs h) (ih _ (allOk_wake j 1 cs h))

theorem wakeEach_serves (k : Nat) (ks : List Nat) (cs : List MC) (h : AllOk cs) (hk : k ∈ ks) :
    tokens k cs + 1 ≤ tokens k (mwakeEach ks cs) ∨ ∀ c ∈ mwakeEach ks cs, c.waitsOn k = true → False := by
  induction ks generalizing cs with
  | nil => cases hk
  | cons j r ih =>
    have hok := allOk_wake j 1 cs h
    by_cases e : k = j
    · subst e
      exact (wake_serves k 1 cs h).imp (fun a => Nat.le_trans a (tokens_wakeEach_ge k r _ hok))
        (waiters_wakeEach k r _)
    · exact (ih _ hok ((List.mem_cons.mp hk).resolve_left e)).imp_left
        (Nat.le_trans (Nat.add_le_add_right (tokens_wake_ge k j 1 cs h) 1))

theorem tokens_eraseIdx (k : Nat) : ∀ (cs : List MC) (i : Nat) (c : MC), cs[i]? = some c →
    tokens k (cs.eraseIdx i) + (if c.token == some k then 1 else 0) = tokens k cs
  | d :: r, 0, _, rfl => by rw [List.eraseIdx_cons_zero, tokens_cons, Nat.add_comm]
  | d :: r, i + 1, c, h => by
    rw [List.eraseIdx_cons_succ, tokens_cons, tokens_cons, Nat.add_assoc, tokens_eraseIdx k r i c h]

theorem tokens_set (k : Nat) (cs : List MC) (i : Nat) (c c' : MC) (h : cs[i]? = some c) :
    tokens k (cs.set i c') + (if c.token == some k then 1 else 0) =
      tokens k cs + (if c'.token == some k then 1 else 0) := by
  have hi := (List.getElem?_eq_some_iff.mp h).1
  rw [← tokens_eraseIdx k cs i c h, ← tokens_eraseIdx k (cs.set i c') i c' (List.getElem?_set_self hi),
    List.eraseIdx_set_eq]
  omega

theorem allOk_eraseIdx (cs : List MC) (i : Nat) (h : AllOk cs) : AllOk (cs.eraseIdx i) :=
  fun d hd => h d (List.mem_of_mem_eraseIdx hd)

theorem allOk_set (cs : List MC) (i : Nat) (c : MC) (h : AllOk cs) (hc : c.ok) : AllOk (cs.set i c) :=
  fun d hd => (List.mem_or_eq_of_mem_set hd).elim (h d) fun e => e ▸ hc

theorem noPassive_eraseIdx (k : Nat) (cs : List MC) (i : Nat) (h : NoPassive k cs) : NoPassive k (cs.eraseIdx i) :=
  fun d hd => h d (List.mem_of_mem_eraseIdx hd)

theorem mem_of_getElem?' (cs : List MC) (i : Nat) (c : MC) (h : cs[i]? = some c) : c ∈ cs :=
  List.mem_of_getElem? h

/-- Every key's account is balanced, and every client is well-formed: that is what keeps the accounts inductive. -/
structure MFull (s : MState) : Prop where
  inv : ∀ k, MInv s k
  ok : AllOk s.cs

theorem minv_mk {len : Nat → Nat} {cs : List MC} {k : Nat} :
    MInv ⟨len, cs⟩ k ↔ len k ≤ tokens k cs ∨ NoPassive k cs :=
  Iff.rfl

theorem mfull_init : MFull {} :=
  ⟨fun _ => .inl (Nat.le_refl _), fun _ hc => nomatch hc⟩

/-- Lists that do not grow, the clients as they are (somebody else pops). -/
theorem mfull_shrink (s : MState) (len' : Nat → Nat) (h : MFull s) (hl : ∀ k, len' k ≤ s.len k) :
    MFull ⟨len', s.cs⟩ :=
  ⟨fun k => minv_mk.mpr ((h.inv k).imp (Nat.le_trans (hl k)) id), h.ok⟩

/-- A push of `n` elements to `k` hands out `n` wake-ups raised by `k`, or leaves `k` without a waiter. -/
theorem mfull_push (s : MState) (k n : Nat) (h : MFull s) : MFull ⟨incLen s.len k n, mwake k n s.cs⟩ := by
  refine ⟨fun j => minv_mk.mpr ?_, allOk_wake k n s.cs h.ok⟩
  rcases h.inv j with a | a
  · by_cases e : j = k
    · subst e
      exact (wake_serves j n s.cs h.ok).imp (fun b => by simp only [incLen, ↓reduceIte]; omega)
        noPassive_of_noWaiter
    · have := tokens_wake_other k j e n s.cs h.ok
      left; simp only [incLen, e, ↓reduceIte]; omega
  · exact .inr (waiters_wake j k n s.cs a)

/-- A new client that holds no wake-up and has its look to come unbalances no account. -/
theorem mfull_snoc (s : MState) (c : MC) (h : MFull s) (ht : c.token = none) (hp : c.pending = true) :
    MFull { s with cs := s.cs ++ [c] } := by
  refine ⟨fun j => minv_mk.mpr ((h.inv j).imp (fun a => ?_) fun a => ?_), ?_⟩
  · rw [tokens_append_one j s.cs c ht]; exact a
  · exact List.forall_mem_append.mpr ⟨a, List.forall_mem_singleton.mpr fun _ => hp⟩
  · exact List.forall_mem_append.mpr ⟨h.ok, List.forall_mem_singleton.mpr ⟨by simp [ht], by simp [ht]⟩⟩

/-- The client at position `i` goes and wakes one waiter of each key in `ks`, the lists not growing. A wake-up it
    held is accounted for: the key that raised it is among `ks`, or the list of that key has lost an element. -/
theorem mfull_goes (s : MState) (i : Nat) (c : MC) (ks : List Nat) (len' : Nat → Nat) (h : MFull s)
    (hc : s.cs[i]? = some c) (hl : ∀ k, len' k ≤ s.len k)
    (hown : ∀ k, c.token = some k → k ∈ ks ∨ len' k ≤ s.len k - 1) :
    MFull ⟨len', mwakeEach ks (s.cs.eraseIdx i)⟩ := by
  have hok := allOk_eraseIdx s.cs i h.ok
  refine ⟨fun k => minv_mk.mpr ?_, allOk_wakeEach _ _ hok⟩
  rcases h.inv k with a | a
  · have := hl k
    have := tokens_wakeEach_ge k ks _ hok
    have := tokens_eraseIdx k s.cs i c hc
    split at this
    next e =>
      -- the wake-up it held was raised by `k`
      rcases hown k (eq_of_beq e) with hk | hd
      · exact (wakeEach_serves k ks _ hok hk).imp (fun b => by omega) noPassive_of_noWaiter
      · left; omega
    next => left; omega
  · exact .inr (waiters_wakeEach k ks _ (noPassive_eraseIdx k s.cs i a))

/-- The client at position `i` leaves (served at its first look, timeout, unblock), the lists not growing;
    a wake-up it never used wakes one waiter of each of its keys. -/
theorem mfull_leave (s : MState) (i : Nat) (c : MC) (len' : Nat → Nat) (h : MFull s) (hc : s.cs[i]? = some c)
    (hl : ∀ k, len' k ≤ s.len k) :
    MFull { len := len', cs := if c.token.isSome then mwakeEach c.keys (s.cs.eraseIdx i) else s.cs.eraseIdx i } := by
  cases ht : c.token with
  | none => exact mfull_goes s i c [] len' h hc hl (by simp [ht])
  | some k0 =>
    refine mfull_goes s i c c.keys len' h hc hl fun k e => .inl ?_
    simpa using (h.ok c (List.mem_of_getElem? hc)).2 k e

/-- The client at position `i`, woken by `k0`, is served from `j0`; if that is another key it hands the
    wake-up to `k0`'s next waiter (D90 repaired). -/
theorem mfull_served (s : MState) (i k0 j0 : Nat) (c : MC) (h : MFull s) (hc : s.cs[i]? = some c)
    (ht : c.token = some k0) :
    MFull { len := decLen s.len j0,
            cs := if true && j0 != k0 then mwake k0 1 (s.cs.eraseIdx i) else s.cs.eraseIdx i } := by
  by_cases hj : j0 = k0
  · subst hj
    simp only [bne_self_eq_false, Bool.and_false, Bool.false_eq_true, ↓reduceIte]
    refine mfull_goes s i c [] _ h hc (decLen_le s.len j0) fun k e => .inr ?_
    cases ht.symm.trans e
    simp [decLen]
  · simp only [Bool.true_and, bne_iff_ne, ne_eq, hj, not_false_eq_true, ↓reduceIte]
    refine mfull_goes s i c [k0] _ h hc (decLen_le s.len j0) fun k e => .inl ?_
    cases ht.symm.trans e
    exact List.mem_singleton_self _

/-- The client at position `i` changes in place. The account of every key stays balanced provided the client
    becomes a passive waiter, or gives up a wake-up, only for keys whose lists are empty. -/
theorem mfull_set (s : MState) (i : Nat) (c c' : MC) (h : MFull s) (hc : s.cs[i]? = some c) (hok : c'.ok)
    (ht : c'.token = c.token ∨ c'.token = none)
    (hdrop : ∀ k, c.token = some k → c'.token = none → s.len k = 0)
    (hwait : ∀ k, c'.waitsOn k = true → c'.pending = true ∨ s.len k = 0) :
    MFull { s with cs := s.cs.set i c' } := by
  refine ⟨fun k => minv_mk.mpr ?_, allOk_set s.cs i c' h.ok hok⟩
  by_cases hz : s.len k = 0
  · exact .inl (by omega)
  · refine (h.inv k).imp (fun a => ?_) fun a d hd hw => ?_
    · have := tokens_set k s.cs i c c' hc
      rcases ht with e | e
      · rw [e] at this; omega
      · have hne : c.token ≠ some k := fun e' => hz (hdrop k e' e)
        simp only [e, hne, beq_iff_eq, reduceCtorEq, ↓reduceIte] at this; omega
    · rcases List.mem_or_eq_of_mem_set hd with e | rfl
      · exact a d e hw
      · exact (hwait k hw).resolve_right hz

/-- A client that found all its lists empty may stay a passive waiter, and may give up its wake-up. -/
theorem mfull_stays (s : MState) (i : Nat) (c c' : MC) (h : MFull s) (hc : s.cs[i]? = some c)
    (hf : firstNonEmpty s.len c.keys = none) (hk : c'.keys = c.keys) (hok : c'.ok)
    (ht : c'.token = c.token ∨ c'.token = none) : MFull { s with cs := s.cs.set i c' } := by
  have hz := firstNonEmpty_none s.len c.keys hf
  refine mfull_set s i c c' h hc hok ht (fun k e _ => hz k ?_) fun k hw => .inr (hz k ?_)
  · simpa using (h.ok c (List.mem_of_getElem? hc)).2 k e
  · simpa [hk] using ((c'.waitsOn_iff k).mp hw).2

/-- A client without a wake-up that links itself in again, its look still to come, is no passive waiter. -/
theorem mfull_relink (s : MState) (i : Nat) (c : MC) (h : MFull s) (hc : s.cs[i]? = some c) (ht : c.token = none) :
    MFull { s with cs := s.cs.set i { c with queued := true, pending := true } } :=
  mfull_set s i c _ h hc ⟨by simp [ht], by simp [ht]⟩ (.inl rfl) (fun k e => by simp [ht] at e) fun _ _ => .inl rfl

end RedisEmu
