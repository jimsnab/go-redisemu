import RedisEmu.Proofs.GoArithBase
/- theorems about the translated Go definitions (Hash); see Proofs/GoArithBase.lean for the header -/
namespace RedisEmu

theorem go_fieldAddIntOverflowGuard (v d : BitVec 64) :
    Go.fieldAddIntOverflowGuard v d = goAddOverflow v.toInt d.toInt := by
  simp only [Go.fieldAddIntOverflowGuard, goAddOverflow, BitVec.slt, toInt_add_wrap, BitVec.toInt_zero, gt_iff_lt]

end RedisEmu
