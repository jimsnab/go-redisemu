import RedisEmu.GoArith
import RedisEmu.Cmds
import Mathlib.Tactic.SplitIfs
/-
  The definitions of `RedisEmu.GoArith` are written by `tools/go2lean` from /repo's working tree on every
  run. The theorems of `Proofs/GoArith{Str,List,Hash,Bits}` (and, for the dictionary, of Props/C17 with the lemmas of
  `Proofs/GoArithDict`) say, for every input, that each translated Go
  function computes what the model uses in its place (`specSignedOverflow`, `toSigned`, `goAddOverflow`, the
  saturation bounds, the index clamps). They are the regenerated half of the tie for that arithmetic: a change
  to one of these Go functions changes the Lean definition and the theorem about it has to be proved again.

  This file: how int64 arithmetic (`BitVec 64` read through `toInt`) relates to `Int` arithmetic and the model's
  `wrap64` — the wrapped result in general, the exact one when it stays in range — and to the unsigned reading
  when the value is not negative.
-/
namespace RedisEmu

theorem toInt_bounds (x : BitVec 64) : -9223372036854775808 ≤ x.toInt ∧ x.toInt < 9223372036854775808 :=
  ⟨BitVec.le_toInt (x := x), BitVec.toInt_lt (x := x)⟩

theorem inRange64_iff (x : Int) : inRange64 x = true ↔ -9223372036854775808 ≤ x ∧ x < 9223372036854775808 := by
  unfold inRange64 twoP63; simp

theorem inRange64_toInt (v : BitVec 64) : inRange64 v.toInt = true :=
  (inRange64_iff _).mpr (toInt_bounds v)

theorem wrap64_eq_bmod (x : Int) : wrap64 x = x.bmod (2 ^ 64) := by
  unfold wrap64 twoP63 twoP64
  rw [Int.bmod_def]
  split_ifs <;> omega

theorem wrap64_of_inRange {x : Int} (h : inRange64 x = true) : wrap64 x = x := by
  rw [inRange64_iff] at h
  unfold wrap64 twoP63 twoP64; omega

theorem toInt_add_wrap (a b : BitVec 64) : (a + b).toInt = wrap64 (a.toInt + b.toInt) := by
  rw [BitVec.toInt_add, wrap64_eq_bmod]

theorem toInt_sub_wrap (a b : BitVec 64) : (a - b).toInt = wrap64 (a.toInt - b.toInt) := by
  rw [BitVec.toInt_sub, wrap64_eq_bmod]

theorem toInt_add_small (a b : BitVec 64) (h1 : -9223372036854775808 ≤ a.toInt + b.toInt)
    (h2 : a.toInt + b.toInt < 9223372036854775808) : (a + b).toInt = a.toInt + b.toInt := by
  rw [toInt_add_wrap, wrap64_of_inRange ((inRange64_iff _).mpr ⟨h1, h2⟩)]

theorem toInt_sub_small (a b : BitVec 64) (h1 : -9223372036854775808 ≤ a.toInt - b.toInt)
    (h2 : a.toInt - b.toInt < 9223372036854775808) : (a - b).toInt = a.toInt - b.toInt := by
  rw [toInt_sub_wrap, wrap64_of_inRange ((inRange64_iff _).mpr ⟨h1, h2⟩)]

theorem toInt_sub_one (a : BitVec 64) (h : -9223372036854775808 < a.toInt) : (a - 1#64).toInt = a.toInt - 1 := by
  have hb := toInt_bounds a
  have := toInt_sub_small a 1#64
  rw [show (1#64).toInt = 1 by decide] at this
  exact this (by omega) (by omega)

theorem toInt_not (a : BitVec 64) : (~~~a).toInt = -a.toInt - 1 := by
  have := toInt_bounds a
  rw [BitVec.toInt_not, ← wrap64_eq_bmod, BitVec.toInt_eq_toNat_cond]
  unfold wrap64 twoP63 twoP64
  split_ifs <;> omega

theorem msb_of_nonneg (x : BitVec 64) (h : 0 ≤ x.toInt) : x.msb = false := by
  rw [BitVec.msb_eq_toInt, decide_eq_false_iff_not]; omega

theorem toInt_eq_toNat_of_nonneg (x : BitVec 64) (h : 0 ≤ x.toInt) : x.toInt = x.toNat :=
  BitVec.toInt_eq_toNat_of_msb (msb_of_nonneg x h)

/-- Go's `%` on operands that are not negative is the remainder of the unsigned readings -/
theorem srem_of_nonneg (x y : BitVec 64) (hx : 0 ≤ x.toInt) (hy : 0 ≤ y.toInt) :
    BitVec.srem x y = BitVec.ofNat 64 (x.toNat % y.toNat) := by
  rw [BitVec.srem_eq, msb_of_nonneg x hx, msb_of_nonneg y hy]
  apply BitVec.eq_of_toNat_eq
  rw [BitVec.toNat_umod, BitVec.toNat_ofNat, Nat.mod_eq_of_lt (Nat.lt_of_le_of_lt (Nat.mod_le _ _) x.isLt)]

/-- Go's `if x < 0 { x = n + x }`, the first step of every index computation: an index counted from the end
    of something of length `n`. The sum cannot wrap, `n` being a length. -/
theorem toInt_fromEnd (n x : BitVec 64) (hn : 0 ≤ n.toInt) :
    (if BitVec.slt x 0#64 then n + x else x).toInt = if x.toInt < 0 then n.toInt + x.toInt else x.toInt := by
  have := toInt_bounds n; have := toInt_bounds x
  simp only [BitVec.slt, BitVec.toInt_zero, decide_eq_true_eq, apply_ite BitVec.toInt]
  split_ifs
  · exact toInt_add_small n x (by omega) (by omega)
  · rfl

end RedisEmu
