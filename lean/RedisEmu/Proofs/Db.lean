import RedisEmu.Cmds
import RedisEmu.Proofs.AList
/- What the lookups `raw` and `live` see, and that keys stay unique (`Db.Uniq`), after each of the mutators. -/
namespace RedisEmu

/-- unique keys: part of the database invariant of C06, needed to know that a deleted key is gone -/
def Db.Uniq (db : Db) : Prop := (db.keys.map (·.1)).Nodup

theorem uniq_empty : ({} : Db).Uniq := List.nodup_nil

theorem live_some_raw {db : Db} {now : Int} {k : Bytes} {e : Entry} (h : db.live now k = some e) :
    db.raw k = some e ∧ e.expired now = false := by
  revert h
  fun_cases Db.live db now k <;> intro h <;> cases h
  exact ⟨‹_›, Bool.eq_false_iff.mpr ‹_›⟩

theorem live_eq_filter (db : Db) (now : Int) (k : Bytes) :
    db.live now k = (db.raw k).filter fun e => !e.expired now := by
  unfold Db.live
  cases db.raw k with
  | none => rfl
  | some e => rw [Option.filter_some]; dsimp only; cases e.expired now <;> rfl

theorem raw_put_self (db : Db) (k : Bytes) (v : Val) (e : Option Int) :
    (db.put k v e).raw k = some { val := v, exp := e, id := db.nextId + 1 } := alookup_ainsert_self k _ db.keys

theorem raw_put_ne (db : Db) (k k' : Bytes) (v : Val) (e : Option Int) (h : (k == k') = false) :
    (db.put k v e).raw k' = db.raw k' := alookup_ainsert_ne k k' _ db.keys h

theorem live_put (db : Db) (now : Int) (k k' : Bytes) (v : Val) (x : Option Int) :
    (db.put k v x).live now k' =
      if k == k' then (if ({ val := v, exp := x, id := db.nextId + 1 } : Entry).expired now then none
                       else some { val := v, exp := x, id := db.nextId + 1 })
      else db.live now k' := by
  unfold Db.live
  cases h : k == k'
  · rw [raw_put_ne db k k' v x h]; rfl
  · cases eq_of_beq h; rw [raw_put_self]; rfl

theorem uniq_put (db : Db) (k : Bytes) (v : Val) (e : Option Int) (hu : db.Uniq) : (db.put k v e).Uniq :=
  ainsert_keys_nodup k _ db.keys hu

/-- RENAME and COPY spell out the `put` of the source object under the destination key -/
theorem put_spelled (db : Db) (k : Bytes) (e : Entry) :
    ({ keys := ainsert k { e with id := db.nextId + 1 } db.keys, nextId := db.nextId + 1, dirty := true } : Db) =
      db.put k e.val e.exp := rfl

theorem raw_poke_self (db : Db) (k : Bytes) (e : Entry) : (db.poke k e).raw k = some e :=
  alookup_ainsert_self k e db.keys

theorem raw_poke_ne (db : Db) (k k' : Bytes) (e : Entry) (h : (k == k') = false) : (db.poke k e).raw k' = db.raw k' :=
  alookup_ainsert_ne k k' e db.keys h

theorem live_poke (db : Db) (now : Int) (k k' : Bytes) (e : Entry) :
    (db.poke k e).live now k' = if k == k' then (if e.expired now then none else some e) else db.live now k' := by
  unfold Db.live
  cases h : k == k'
  · rw [raw_poke_ne db k k' e h]; rfl
  · cases eq_of_beq h; rw [raw_poke_self]; rfl

theorem uniq_poke (db : Db) (k : Bytes) (e : Entry) (hu : db.Uniq) : (db.poke k e).Uniq :=
  ainsert_keys_nodup k e db.keys hu

/-- whether or not the key was stored -/
theorem keys_del (db : Db) (k : Bytes) : (db.del k).keys = aerase k db.keys := by
  unfold Db.del
  split
  · rfl
  · exact (aerase_of_alookup_none (by assumption)).symm

theorem nextId_del (db : Db) (k : Bytes) : (db.del k).nextId = db.nextId := by
  unfold Db.del; split <;> rfl

theorem raw_del_self (db : Db) (k : Bytes) (hu : db.Uniq) : (db.del k).raw k = none := by
  rw [Db.raw, keys_del]; exact alookup_aerase_self_of_unique k db.keys hu

theorem raw_del_ne (db : Db) (k k' : Bytes) (h : (k == k') = false) : (db.del k).raw k' = db.raw k' := by
  rw [Db.raw, keys_del]; exact alookup_aerase_ne k k' db.keys h

theorem live_del (db : Db) (now : Int) (k k' : Bytes) (hu : db.Uniq) :
    (db.del k).live now k' = if k == k' then none else db.live now k' := by
  unfold Db.live
  cases h : k == k'
  · rw [raw_del_ne db k k' h]; rfl
  · cases eq_of_beq h; rw [raw_del_self db k hu]; rfl

theorem uniq_del (db : Db) (k : Bytes) (hu : db.Uniq) : (db.del k).Uniq := by
  rw [Db.Uniq, keys_del]; exact aerase_keys_nodup k db.keys hu

/-- no empty list, hash or set: what `update` asks before it stores a value, and what C06 shows of every stored one -/
def Val.nonEmpty : Val → Bool
  | .list l => !l.isEmpty
  | .hash h => !h.isEmpty
  | .set s => !s.isEmpty
  | _ => true

theorem nonEmpty_list {l : List Bytes} (h : l ≠ []) : (Val.list l).nonEmpty = true := by
  cases l; contradiction; rfl
theorem nonEmpty_set {l : List Bytes} (h : l ≠ []) : (Val.set l).nonEmpty = true := by
  cases l; contradiction; rfl
theorem nonEmpty_hash {l : List (Bytes × Bytes)} (h : l ≠ []) : (Val.hash l).nonEmpty = true := by
  cases l; contradiction; rfl

theorem update_eq (db : Db) (k : Bytes) (e : Entry) (v : Val) :
    db.update k e v = if v.nonEmpty then (db.poke k { e with val := v }).setDirty else (db.del k).setDirty := by
  cases v <;> simp [Db.update, Val.nonEmpty]

theorem update_cases {P : Db → Prop} (db : Db) (k : Bytes) (e : Entry) (v : Val)
    (hdel : v.nonEmpty = false → P (db.del k).setDirty)
    (hpoke : v.nonEmpty = true → P (db.poke k { e with val := v }).setDirty) : P (db.update k e v) := by
  rw [update_eq]
  cases h : v.nonEmpty
  · exact hdel h
  · exact hpoke h

theorem update_list (db : Db) (k : Bytes) (e : Entry) {l : List Bytes} (h : l ≠ []) :
    db.update k e (.list l) = (db.poke k { e with val := .list l }).setDirty := by
  rw [update_eq, nonEmpty_list h]; rfl

theorem raw_update_ne (db : Db) (k k' : Bytes) (e : Entry) (v : Val) (h : (k == k') = false) :
    (db.update k e v).raw k' = db.raw k' :=
  update_cases (P := fun d => d.raw k' = db.raw k') db k e v (fun _ => raw_del_ne db k k' h)
    (fun _ => raw_poke_ne db k k' _ h)

theorem raw_update_empty (db : Db) (k : Bytes) (e : Entry) {v : Val} (hu : db.Uniq) (hv : v.nonEmpty = false) :
    (db.update k e v).raw k = none := by
  rw [update_eq, hv]; exact raw_del_self db k hu

theorem raw_bump (c : Ctx) (db : Db) (e : Entry) (k : Bytes) : (bump c db e).1.raw k = db.raw k := by
  unfold bump; split <;> rfl

theorem bump_val (c : Ctx) (db : Db) (e : Entry) : (bump c db e).2.val = e.val := by
  unfold bump; split <;> rfl

theorem bump_val' {c : Ctx} {db db1 : Db} {e e1 : Entry} (hb : bump c db e = (db1, e1)) : e1.val = e.val := by
  have := bump_val c db e; rwa [hb] at this

theorem upd_eq (c : Ctx) (db : Db) (k : Bytes) (e : Entry) (v : Val) :
    upd c db k e v = (bump c db e).1.update k (bump c db e).2 v := rfl

theorem raw_upd_ne (c : Ctx) (db : Db) (k k' : Bytes) (e : Entry) (v : Val) (h : (k == k') = false) :
    (upd c db k e v).raw k' = db.raw k' := by
  rw [upd_eq, raw_update_ne _ k k' _ v h, raw_bump]

theorem raw_dirtyUnlessQuirk (c : Ctx) (d : Db) (k : Bytes) : (dirtyUnlessQuirk c d).raw k = d.raw k := by
  unfold dirtyUnlessQuirk; split <;> rfl

theorem listOf_live {c : Ctx} {db : Db} {k : Bytes} {e : Entry} {l : List Bytes}
    (hl : listOf c db k = .ok (some (e, l))) : db.live c.now k = some e ∧ e.val = .list l := by
  revert hl
  fun_cases listOf c db k <;> intro hl <;> cases hl
  exact ⟨‹_›, ‹_›⟩

theorem hashOf_live {c : Ctx} {db : Db} {k : Bytes} {e : Entry} {h : List (Bytes × Bytes)}
    (hl : hashOf c db k = .ok (some (e, h))) : db.live c.now k = some e ∧ e.val = .hash h := by
  revert hl
  fun_cases hashOf c db k <;> intro hl <;> cases hl
  exact ⟨‹_›, ‹_›⟩

theorem setOf_live {c : Ctx} {db : Db} {k : Bytes} {e : Entry} {s : List Bytes}
    (hl : setOf c db k = .ok (some (e, s))) : db.live c.now k = some e ∧ e.val = .set s := by
  revert hl
  fun_cases setOf c db k <;> intro hl <;> cases hl
  exact ⟨‹_›, ‹_›⟩

theorem listOf_none_live {c : Ctx} {db : Db} {k : Bytes}
    (hl : listOf c db k = .ok none) : db.live c.now k = none := by
  revert hl
  fun_cases listOf c db k <;> intro hl <;> cases hl
  assumption

/-! ### every stored pair satisfies `P`: the common shape of "no empty aggregate" and "no member twice" -/

def Db.Forall (P : Bytes → Val → Prop) (db : Db) : Prop := ∀ p ∈ db.keys, P p.1 p.2.val

section
variable {P : Bytes → Val → Prop} {db : Db}

theorem Db.Forall.raw (h : db.Forall P) {k : Bytes} {e : Entry} (hr : db.raw k = some e) : P k e.val :=
  h (k, e) (mem_of_alookup k db.keys e hr)

theorem Db.Forall.live (h : db.Forall P) {now : Int} {k : Bytes} {e : Entry} (hl : db.live now k = some e) :
    P k e.val := h.raw (live_some_raw hl).1

theorem Db.Forall.srcLookup (h : db.Forall P) {c : Ctx} {k : Bytes} {e : Entry} (hs : srcLookup c db k = some e) :
    P k e.val := by
  unfold RedisEmu.srcLookup at hs
  split at hs
  · exact h.raw hs
  · exact h.live hs

theorem Db.Forall.put (h : db.Forall P) {k : Bytes} {v : Val} (hv : P k v) (e : Option Int) : (db.put k v e).Forall P :=
  fun p hp => (mem_ainsert k _ db.keys p hp).elim (· ▸ hv) (h p)

theorem Db.Forall.poke (h : db.Forall P) {k : Bytes} {e : Entry} (hv : P k e.val) : (db.poke k e).Forall P :=
  fun p hp => (mem_ainsert k _ db.keys p hp).elim (· ▸ hv) (h p)

theorem Db.Forall.del (h : db.Forall P) (k : Bytes) : (db.del k).Forall P :=
  fun p hp => h p (mem_aerase k db.keys p (keys_del db k ▸ hp))

theorem Db.Forall.update (h : db.Forall P) {k : Bytes} {v : Val} (e : Entry) (hv : v.nonEmpty = true → P k v) :
    (db.update k e v).Forall P :=
  update_cases (P := Db.Forall P) db k e v (fun _ => h.del k) (fun hn => h.poke (hv hn))

theorem Db.Forall.bump (h : db.Forall P) (c : Ctx) (e : Entry) : (bump c db e).1.Forall P := by
  unfold RedisEmu.bump; split <;> exact h

theorem Db.Forall.upd (h : db.Forall P) (c : Ctx) {k : Bytes} {v : Val} (e : Entry) (hv : v.nonEmpty = true → P k v) :
    (upd c db k e v).Forall P := (h.bump c e).update _ hv

theorem Db.Forall.dirtyUnlessQuirk (h : db.Forall P) (c : Ctx) : (dirtyUnlessQuirk c db).Forall P := by
  unfold RedisEmu.dirtyUnlessQuirk; split <;> exact h
end

end RedisEmu
