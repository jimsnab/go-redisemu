import RedisEmu.Proofs.GoArithBase
/- theorems about the translated Go definitions (Str); see Proofs/GoArithBase.lean for the header -/
namespace RedisEmu

theorem go_addIntOverflowGuard (v d : BitVec 64) :
    Go.addIntOverflowGuard v d = goAddOverflow v.toInt d.toInt := by
  simp only [Go.addIntOverflowGuard, goAddOverflow, BitVec.slt, toInt_add_wrap, BitVec.toInt_zero, gt_iff_lt]

theorem go_getRangeClamp (s e n : BitVec 64) (hn : 0 ≤ n.toInt) :
    ((Go.getRangeClamp s e n).1.toInt, (Go.getRangeClamp s e n).2.toInt) = getRangeBounds n.toInt s.toInt e.toInt := by
  have vS := toInt_fromEnd n s hn; have vE := toInt_fromEnd n e hn
  simp only [Go.getRangeClamp, getRangeBounds]
  generalize (if BitVec.slt s 0#64 then n + s else s) = S at *
  generalize (if BitVec.slt e 0#64 then n + e else e) = E at *
  -- the clamped start is not negative, so neither `start - 1` nor `n - 1` wraps
  generalize hS2 : (if BitVec.slt S 0#64 then 0#64 else if BitVec.slt n S then n else S) = S2
  have vS2 : S2.toInt = if S.toInt < 0 then 0 else if n.toInt < S.toInt then n.toInt else S.toInt := by
    simp only [← hS2, BitVec.slt, BitVec.toInt_zero, decide_eq_true_eq, apply_ite BitVec.toInt]
  have vP := toInt_sub_one S2 (by rw [vS2]; split_ifs <;> omega)
  simp only [← vS, ← vE, ← vS2, vP, toInt_sub_one n (by omega), BitVec.slt, BitVec.sle, decide_eq_true_eq,
    apply_ite BitVec.toInt, gt_iff_lt, ge_iff_le]

theorem go_setrangeSizeGuard (o l : BitVec 64) (hl : 0 ≤ l.toInt) (hl2 : l.toInt < 4611686018427387904) :
    Go.setrangeSizeGuard o l = (decide (o.toInt > hugeAlloc) || decide (o.toInt + l.toInt > hugeAlloc)) := by
  have ho := toInt_bounds o
  simp only [Go.setrangeSizeGuard, hugeAlloc, BitVec.slt, show (536870912#64).toInt = 536870912 by decide, gt_iff_lt]
  by_cases h : 536870912 < o.toInt
  · simp only [h, decide_true, Bool.true_or]
  · rw [toInt_add_small o l (by omega) (by omega)]

end RedisEmu
