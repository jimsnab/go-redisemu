import RedisEmu.Resp
import Mathlib.Tactic.SplitIfs
/- the seven mutually recursive functions of the RESP parser never produce the crash outcome: helper
   lemmas for C13 (`parse_never_crashes`) -/
namespace RedisEmu

def PR.isCrash {α} : PR α → Bool
  | .crash _ => true
  | _ => false

theorem crash_absurd {α} {x : PR α} {s : String} (h : x.isCrash = false) (e : x = .crash s) : False := by
  rw [e] at h; cases h

theorem PR.isCrash_ite {α} {c : Prop} [Decidable c] {a b : PR α} (ha : a.isCrash = false) (hb : b.isCrash = false) :
    (if c then a else b).isCrash = false := by
  split <;> assumption

theorem takeBulk_no_crash (n : Nat) (inp : Bytes) (pos : Nat) : (takeBulk n inp pos).isCrash = false := by
  unfold takeBulk
  split_ifs
  · rfl
  · dsimp only
    split <;> rfl

structure ParserSafe (fuel : Nat) : Prop where
  value : ∀ e inp pos, (parseValue fuel e inp pos).isCrash = false
  arr : ∀ n inp pos acc, (parseN fuel n inp pos acc).isCrash = false
  set : ∀ n inp pos acc, (parseNSet fuel n inp pos acc).isCrash = false
  map : ∀ n inp pos acc, (parseNMap fuel n inp pos acc).isCrash = false
  dyn : ∀ inp pos acc, (parseDyn fuel inp pos acc).isCrash = false
  dynMap : ∀ inp pos acc, (parseDynMap fuel inp pos acc).isCrash = false
  chunked : ∀ inp pos acc, (parseChunked fuel inp pos acc).isCrash = false

theorem ParserSafe.zero : ParserSafe 0 := by
  constructor <;> intros <;> simp [parseValue, parseN, parseNSet, parseNMap, parseDyn, parseDynMap, parseChunked, PR.isCrash]

/-- one more unit of fuel: every leaf of the seven case trees is `ok`, `invalid`, a call that is safe by `h`, or the
    `crash` arm of a `match` on such a call -/
theorem ParserSafe.succ {fuel : Nat} (h : ParserSafe fuel) : ParserSafe (fuel + 1) where
  arr n inp pos acc := by
    unfold parseN
    cases n with
    | zero => rfl
    | succ n =>
      simp only
      have hv := h.value false inp pos
      split
      · exact h.arr _ _ _ _
      · rfl
      · exact (crash_absurd hv ‹_›).elim
  set n inp pos acc := by
    unfold parseNSet
    cases n with
    | zero => rfl
    | succ n =>
      simp only
      have hv := h.value false inp pos
      split
      · split_ifs
        · rfl
        · exact h.set _ _ _ _
      · rfl
      · exact (crash_absurd hv ‹_›).elim
  map n inp pos acc := by
    unfold parseNMap
    cases n with
    | zero => rfl
    | succ n =>
      simp only
      have hv := h.value false inp pos
      split
      · rename_i k r p heq
        have hv2 := h.value false r p
        split
        · split_ifs
          · rfl
          · exact h.map _ _ _ _
        · rfl
        · exact (crash_absurd hv2 ‹_›).elim
      · rfl
      · exact (crash_absurd hv ‹_›).elim
  dyn inp pos acc := by
    unfold parseDyn
    have hv := h.value true inp pos
    split
    · rfl
    · exact h.dyn _ _ _
    · rfl
    · exact (crash_absurd hv ‹_›).elim
  dynMap inp pos acc := by
    unfold parseDynMap
    have hv := h.value true inp pos
    split
    · rfl
    · rename_i k r p _ heq
      have hv2 := h.value false r p
      simp only
      split
      · split_ifs
        · rfl
        · exact h.dynMap _ _ _
      · rfl
      · exact (crash_absurd hv2 ‹_›).elim
    · rfl
    · exact (crash_absurd hv ‹_›).elim
  chunked inp pos acc := by
    unfold parseChunked
    split
    · rfl
    · simp only
      split
      · split
        · rfl
        · split_ifs
          · rfl
          · rfl
          · split
            · exact h.chunked _ _ _
            · rfl
            · exact (crash_absurd (takeBulk_no_crash _ _ _) ‹_›).elim
      · rfl
  value e inp pos := by
    unfold parseValue
    simp only [makeCrashes, Bool.false_eq_true, if_false]
    -- the `show` lets the search for the safe call run on `crash` arms only (on the other goals it is slow to fail)
    repeat' first
      | rfl
      | exact h.chunked _ _ _
      | (show (PR.crash _).isCrash = false
         rename_i heq
         exact (crash_absurd (by simp only [h.value, h.arr, h.set, h.map, h.dyn, h.dynMap, h.chunked, takeBulk_no_crash])
          heq).elim)
      | apply PR.isCrash_ite
      | split

theorem parserSafe_all : ∀ fuel, ParserSafe fuel
  | 0 => ParserSafe.zero
  | fuel + 1 => (parserSafe_all fuel).succ

end RedisEmu
