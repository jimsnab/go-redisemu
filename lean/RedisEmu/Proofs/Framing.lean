import RedisEmu.Resp
import RedisEmu.Proofs.Codec
/- lemmas for the framing theorems of C01: what the parser makes of an incomplete command -/
namespace RedisEmu

theorem prefix_append_cases {p q a b : Bytes} (h : p ++ q = a ++ b) :
    (∃ q', q' ≠ [] ∧ p ++ q' = a) ∨ ∃ p', p = a ++ p' ∧ p' ++ q = b := by
  rcases List.append_eq_append_iff.mp h with ⟨a', rfl, rfl⟩ | ⟨c', rfl, rfl⟩
  · by_cases ha : a' = []
    · subst ha; exact .inr ⟨[], by simp, by simp⟩
    · exact .inl ⟨a', ha, rfl⟩
  · exact .inr ⟨c', rfl, rfl⟩

theorem length_lt_of_append {p q s : Bytes} (h : p ++ q = s) (hq : q ≠ []) : p.length < s.length := by
  have := List.length_pos_iff.mpr hq
  simp [← h]; omega

theorem splitLine_incomplete (l : Bytes) (h : ∀ c ∈ l, c ≠ 13) :
    ∀ (p q : Bytes), p ++ q = l ++ [13, 10] → q ≠ [] → splitLine p = none := by
  induction l with
  | nil =>
    intro p q hp hq
    match p, hp with
    | [], _ | [_], _ => rfl
    | _ :: _ :: r, hp => simp at hp; exact absurd hp.2.2.2 hq
  | cons x l' ih =>
    have ⟨hx, hl'⟩ := List.forall_mem_cons.mp h
    intro p q hp hq
    match p, hp with
    | [], _ => rfl
    | a :: p1, hp =>
      rw [List.cons_append, List.cons_append, List.cons.injEq] at hp
      rw [splitLine_cons_of_ne (hp.1 ▸ hx), ih hl' p1 q hp.2 hq]; rfl

theorem takeBulk_short {n : Nat} {a : Bytes} (h : a.length < n + 2) (pos : Nat) :
    takeBulk n a pos = .invalid := by
  simp [takeBulk, h]

end RedisEmu
